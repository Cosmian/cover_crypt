import CC.Generated.Consts
import CC.Model.Leb
import CC.Model.Policy
import CC.Model.Structure
import CC.Model.Keys
import CC.Model.Prims
import CC.Spec.Cover
import CC.Lemmas.Assoc
import CC.Lemmas.Leb
import CC.Lemmas.Blocks
import CC.Lemmas.Comb
import CC.Lemmas.Rev
import CC.Lemmas.RevMap
import CC.Lemmas.Refresh
import CC.Lemmas.Prims
import CC.Lemmas.Edits
import CC.Generated.Hashing
import CC.Generated.Allocs
import CC.Model.Sym
import CC.Model.HashBind
import CC.Model.Wire
import CC.Model.Mac
import CC.Lemmas.Wire
import CC.Lemmas.Cover
import CC.Lemmas.Kem
import CC.Lemmas.Inv
import CC.Model.World
import CC.Lemmas.Reach
import CC.Lemmas.World
import CC.Lemmas.Sym
import CC.Lemmas.Rotation
import CC.Lemmas.Issued
import CC.Generated.Locks
import CC.Model.Sched
import CC.Driver
import CC.Props.C01
import CC.Props.C02
import CC.Props.C03
import CC.Props.C04
import CC.Props.C05
import CC.Lemmas.Omega
import CC.Lemmas.Disabled
import CC.Lemmas.Contig
import CC.Lemmas.Rename
import CC.Lemmas.Coh
import CC.Lemmas.Frame
import CC.Lemmas.Chain
import CC.Props.C06
import CC.Model.Dict
import CC.Props.DictRefine
import CC.Props.C09
import CC.Props.C10
import CC.Props.C11
import CC.Props.C15
import CC.Lemmas.Parse
import CC.Props.C15Sound
import CC.Props.C17
import CC.Props.C17Alg
import CC.Props.C01Alg
import CC.Props.C18
import CC.Props.C07
import CC.Props.C08
import CC.Props.C12
import CC.Props.C13
import CC.Model.WireLen
import CC.Props.C13Len
import CC.Model.Embed
import CC.Model.Shape
import CC.Props.C13Reach
import CC.Props.C14
import CC.Props.C16
import CC.Props.C16Hist
import CC.Props.C19
import CC.Model.Conc
import CC.Props.C19Conc
import CC.Props.NonVacuity
