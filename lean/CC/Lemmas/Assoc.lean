/-! Association lists over any key type with a lawful `==` (names and rights alike): `List.lookup`
against membership and the list of keys, under a map that keeps the keys and a filter on the keys;
then the few other list facts the development needs and core lacks (no repetition under a map,
`any` / `all` under a pointwise equality on the members, `set` against `sum`). Core Lean only. -/
namespace CC
variable {κ β γ : Type} [BEq κ] [LawfulBEq κ] {l : List (κ × β)} {k k' : κ} {v : β}

theorem lookup_cons_ne {a : κ} {b : β} (h : k ≠ a) : ((a, b) :: l).lookup k = l.lookup k := by
  rw [List.lookup_cons, beq_false_of_ne h]

theorem lookup_mem (h : l.lookup k = some v) : (k, v) ∈ l := by
  obtain ⟨l₁, l₂, rfl, _⟩ := List.lookup_eq_some_iff.1 h
  exact List.mem_append_right _ List.mem_cons_self

theorem lookup_eq_none_iff_keys : l.lookup k = none ↔ k ∉ l.map (·.1) := by
  rw [List.lookup_eq_none_iff]
  simp only [List.mem_map, bne_iff_ne]
  exact ⟨fun h ⟨q, hq, e⟩ => h q hq e.symm, fun h q hq e => h ⟨q, hq, e.symm⟩⟩

theorem lookup_isSome_iff_keys : (l.lookup k).isSome = true ↔ k ∈ l.map (·.1) := by
  rw [← Decidable.not_iff_not, ← lookup_eq_none_iff_keys]
  cases l.lookup k <;> simp

theorem lookup_of_mem (h : (k, v) ∈ l) : ∃ v', l.lookup k = some v' :=
  Option.isSome_iff_exists.1 (lookup_isSome_iff_keys.2 (List.mem_map.2 ⟨_, h, rfl⟩))

theorem lookup_eq_some_iff_mem (hnd : (l.map (·.1)).Nodup) : l.lookup k = some v ↔ (k, v) ∈ l := by
  refine ⟨lookup_mem, fun h => ?_⟩
  induction l with
  | nil => cases h
  | cons q l ih =>
    obtain ⟨a, b⟩ := q
    rw [List.map_cons, List.nodup_cons] at hnd
    rcases List.mem_cons.1 h with h | h
    · cases h; exact List.lookup_cons_self
    · rw [lookup_cons_ne fun e : k = a => hnd.1 (List.mem_map.2 ⟨_, h, e⟩), ih hnd.2 h]

section
variable {g : κ × β → κ × γ} (hg : ∀ p, (g p).1 = p.1)
include hg

omit [BEq κ] [LawfulBEq κ] in
theorem keys_map_of_fst : (l.map g).map (·.1) = l.map (·.1) := by
  rw [List.map_map]; exact List.map_congr_left fun p _ => hg p

theorem lookup_map_of_fst : (l.map g).lookup k = (l.lookup k).map fun v => (g (k, v)).2 := by
  induction l with
  | nil => rfl
  | cons q l ih =>
    obtain ⟨a, b⟩ := q
    rw [List.map_cons, ← Prod.eta (g (a, b)), hg]
    by_cases h : k = a
    · subst h; rw [List.lookup_cons_self, List.lookup_cons_self]; rfl
    · rw [lookup_cons_ne h, lookup_cons_ne h, ih]

end

theorem lookup_filter_key (f : κ → Bool) :
    (l.filter fun p => f p.1).lookup k = if f k then l.lookup k else none := by
  induction l with
  | nil => simp
  | cons q l ih =>
    obtain ⟨a, b⟩ := q
    by_cases h : k = a
    · subst h
      cases hf : f k
      · rw [List.filter_cons_of_neg (by simp [hf]), ih, hf]; rfl
      · rw [List.filter_cons_of_pos (by simp [hf]), List.lookup_cons_self, if_pos rfl, List.lookup_cons_self]
    · rw [lookup_cons_ne h, ← ih]
      cases hf : f a
      · rw [List.filter_cons_of_neg (by simp [hf])]
      · rw [List.filter_cons_of_pos (by simp [hf]), lookup_cons_ne h]

/-! overwriting under one key: `areplace`, and the first arm of `rinsert` -/

theorem replace_fst (q : κ × β) : (if q.1 == k then (k, v) else q).1 = q.1 := by
  split
  · rename_i h; exact (eq_of_beq h).symm
  · rfl

theorem mem_map_replace {p : κ × β} : p ∈ l.map (fun q => if q.1 == k then (k, v) else q) ↔
    (p ∈ l ∧ p.1 ≠ k) ∨ (p = (k, v) ∧ k ∈ l.map (·.1)) := by
  rw [List.mem_map]
  constructor
  · rintro ⟨q, hq, rfl⟩
    split
    · rename_i h; exact .inr ⟨rfl, List.mem_map.2 ⟨q, hq, eq_of_beq h⟩⟩
    · rename_i h; exact .inl ⟨hq, fun e => h (beq_iff_eq.2 e)⟩
  · rintro (⟨hp, h⟩ | ⟨rfl, hk⟩)
    · exact ⟨p, hp, if_neg fun e => h (eq_of_beq e)⟩
    · obtain ⟨q, hq, rfl⟩ := List.mem_map.1 hk
      exact ⟨q, hq, if_pos (beq_self_eq_true _)⟩

theorem lookup_map_replace :
    (l.map (fun q => if q.1 == k then (k, v) else q)).lookup k' =
      if k' == k then (l.lookup k).map (fun _ => v) else l.lookup k' := by
  rw [lookup_map_of_fst replace_fst]
  by_cases h : k' = k
  · subst h; rw [if_pos (beq_self_eq_true k')]
    cases l.lookup k' with
    | none => rfl
    | some w => rw [Option.map_some, Option.map_some, if_pos (beq_self_eq_true k')]
  · rw [if_neg fun e => h (eq_of_beq e)]
    cases l.lookup k' with
    | none => rfl
    | some w => rw [Option.map_some, if_neg fun e => h (eq_of_beq e)]

section
omit [BEq κ] [LawfulBEq κ]
variable {i j : Nat} {w : β}

theorem key_ne_of_getElem? (hnd : (l.map (·.1)).Nodup) (hi : l[i]? = some (k, w)) {p : κ × β}
    (hj : l[j]? = some p) (hji : j ≠ i) : p.1 ≠ k := by
  intro hp
  have hlt := (List.getElem?_eq_some_iff.mp hi).1
  refine hji ((List.getElem?_inj (by rw [List.length_map]; exact hlt) hnd).mp ?_).symm
  rw [List.getElem?_map, List.getElem?_map, hi, hj, Option.map_some, Option.map_some, hp]

end

/-- overwriting the entry of `k` is a `map` that touches only `k` -/
theorem set_eq_map {i : Nat} {w : β} (hnd : (l.map (·.1)).Nodup) (hi : l[i]? = some (k, w)) (φ : κ × β → κ × β) :
    l.set i (φ (k, w)) = l.map fun p => if p.1 == k then φ p else p := by
  apply List.ext_getElem?
  intro j
  rw [List.getElem?_set, List.getElem?_map]
  split
  · next e => subst e; rw [hi, if_pos (List.getElem?_eq_some_iff.mp hi).1, Option.map_some, if_pos (beq_self_eq_true k)]
  · next e =>
    cases hj : l[j]? with
    | none => rfl
    | some p => rw [Option.map_some, if_neg fun e' => key_ne_of_getElem? hnd hi hj (Ne.symm e) (eq_of_beq e')]

omit [LawfulBEq κ] in
theorem lookup_append_singleton (r : κ) (v : β) :
    (l ++ [(r, v)]).lookup k = (l.lookup k).or (if k == r then some v else none) := by
  rw [List.lookup_append, List.lookup_cons]
  cases k == r <;> rfl

section
omit [BEq κ] [LawfulBEq κ]
variable {α : Type}

theorem nodup_map_iff {f : α → γ} {l : List α} (hl : l.Nodup) :
    (l.map f).Nodup ↔ ∀ a ∈ l, ∀ b ∈ l, f a = f b → a = b := by
  rw [List.Nodup, List.pairwise_map]
  constructor
  · intro h a ha b hb
    exact List.Pairwise.forall_of_forall_of_flip (R := fun a b => f a = f b → a = b)
      (fun _ _ _ => rfl) (h.imp fun h e => absurd e h) (h.imp fun h e => absurd e.symm h) ha hb
  · intro h
    exact hl.imp_of_mem fun ha hb hne e => hne (h _ ha _ hb e)

theorem nodup_of_nodup_map (f : α → γ) {l : List α} (h : (l.map f).Nodup) : l.Nodup :=
  (List.pairwise_map.1 h).imp fun h e => h (congrArg f e)

theorem any_congr_mem {l : List α} {f g : α → Bool} (h : ∀ x ∈ l, f x = g x) : l.any f = l.any g := by
  rw [List.any_eq, List.any_eq]
  exact decide_eq_decide.2 (exists_congr fun x => and_congr_right fun hx => by rw [h x hx])

theorem all_congr_mem {l : List α} {f g : α → Bool} (h : ∀ x ∈ l, f x = g x) : l.all f = l.all g := by
  rw [List.all_eq, List.all_eq]
  exact decide_eq_decide.2 (forall_congr' fun x => forall_congr' fun hx => by rw [h x hx])

theorem getElem?_concat {l : List α} {a : α} {j : Nat} :
    (l ++ [a])[j]? = if j = l.length then some a else l[j]? := by
  rw [List.getElem?_append]
  rcases Nat.lt_trichotomy j l.length with h | h | h
  · rw [if_pos h, if_neg (Nat.ne_of_lt h)]
  · rw [if_neg (h ▸ Nat.lt_irrefl _), if_pos h, h, Nat.sub_self]; rfl
  · rw [if_neg (Nat.lt_asymm h), if_neg (Nat.ne_of_gt h), List.getElem?_eq_none (Nat.le_of_lt h),
      List.getElem?_eq_none (by rw [List.length_singleton]; exact Nat.sub_pos_of_lt h)]

end

omit [BEq κ] [LawfulBEq κ] in
theorem sum_map_set {α : Type} (f : α → Nat) {l : List α} {i : Nat} {x : α} (y : α) (h : l[i]? = some x) :
    ((l.set i y).map f).sum + f x = (l.map f).sum + f y := by
  induction l generalizing i with
  | nil => cases h
  | cons a l ih =>
    cases i with
    | zero =>
      cases h
      -- both sides are `f x + f y + Σ`
      rw [List.set_cons_zero, List.map_cons, List.map_cons, List.sum_cons,
        Nat.add_right_comm, Nat.add_comm (f y)]
      exact Nat.add_right_comm _ _ _
    | succ j =>
      rw [List.set_cons_succ, List.map_cons, List.map_cons, List.sum_cons, List.sum_cons,
        Nat.add_assoc, ih h, Nat.add_assoc]

end CC
