import CC.Lemmas.Chain
import CC.Lemmas.Inv
import CC.Lemmas.Edits
/-! The master-key invariant and the well-formedness of the access structure hold in every reachable world. -/
namespace CC

theorem step_inv (w : World) (op : Op) (h : w.msk.Inv w.rng) : (w.step op).msk.Inv (w.step op).rng :=
  World.step_cases (P := fun w w' => w.msk.Inv w.rng → w'.msk.Inv w'.rng) w op id (fun _ _ _ => id)
    (updateMsk_inv _ _ _) (fun _ => rekey_inv _ _ _) (fun _ => prune_inv _ _ _)
    (fun _ => (uskKeygen_side _ _ _).inv) (fun _ _ => (refresh_side _ _ _ _).inv)
    (fun _ h => RevMap.Inv.mono h (Nat.le_add_right _ _)) h

theorem init_inv (n : Rng) (k : Nat) : (World.init n k).msk.Inv (World.init n k).rng :=
  step_inv ⟨(setup n k).1, (setup n k).2⟩ .update (setup_inv n k)

theorem reachable_inv (w : World) (h : Reachable w) : w.msk.Inv w.rng :=
  h.induction init_inv fun w op _ => step_inv w op

theorem step_struct (w : World) (op : Op) (h : w.msk.structure_.WF ∧ w.msk.structure_.IdsBelow) :
    (w.step op).msk.structure_.WF ∧ (w.step op).msk.structure_.IdsBelow := by
  rcases (step_frame w op).struct with e | ⟨e, he⟩
  · rw [e]; exact h
  · exact ⟨Struct.apply_wf h.1 h.2 he, Struct.apply_idsBelow he h.2⟩

theorem empty_wf : Struct.empty.WF ∧ Struct.empty.IdsBelow :=
  ⟨⟨List.nodup_nil, fun _ hp => (nomatch hp), fun _ ht => (nomatch ht)⟩, fun _ hp => (nomatch hp)⟩

/-- **Every reachable world has a well-formed access structure** (distinct names, identifiers
never shared: the D1 defect of the pinned tree violated exactly this) -/
theorem reachable_struct_wf (w : World) (h : Reachable w) : w.msk.structure_.WF ∧ w.msk.structure_.IdsBelow :=
  h.induction (fun n k => step_struct ⟨(setup n k).1, (setup n k).2⟩ .update empty_wf) fun w op _ => step_struct w op

def World.UsersBelow (w : World) : Prop := ∀ id ∈ w.msk.users, ∀ m ∈ id, m < w.rng

end CC
