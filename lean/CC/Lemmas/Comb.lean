import CC.Model.Structure
/-! `combine`: the points are exactly the choices of at most one attribute per dimension. -/
namespace CC

/-- at most one attribute per dimension, in dimension order -/
inductive Choice : List Dim → List Attr → Prop
  | nil : Choice [] []
  | skip {d ds as} : Choice ds as → Choice (d :: ds) as
  | take {d ds as n a} : (n, a) ∈ d.attrs → Choice ds as → Choice (d :: ds) (a :: as)

theorem mem_combine_point (ds : List Dim) (x : List Nat × Bool × Bool) :
    x ∈ combine ds ↔ ∃ as, Choice ds as ∧ x = (as.map (·.id), as.any (·.hyb), as.any (·.ro)) := by
  induction ds generalizing x with
  | nil =>
    rw [combine, List.mem_singleton]
    exact ⟨fun e => ⟨[], .nil, e⟩, fun ⟨as, hc, e⟩ => by cases hc; exact e⟩
  | cons d ds ih =>
    simp only [combine, List.mem_append, List.mem_flatMap, List.mem_map]
    constructor
    · rintro (hm | ⟨⟨n, a⟩, had, y, hm, rfl⟩) <;> obtain ⟨as, hc, rfl⟩ := (ih _).1 hm
      · exact ⟨as, .skip hc, rfl⟩
      · exact ⟨a :: as, .take had hc, by simp only [List.map_cons, List.any_cons, Bool.or_comm]⟩
    · rintro ⟨as, hc, rfl⟩
      cases hc with
      | skip hc => exact .inl ((ih _).2 ⟨_, hc, rfl⟩)
      | take had hc =>
        exact .inr ⟨_, had, _, (ih _).2 ⟨_, hc, rfl⟩, by simp only [List.map_cons, List.any_cons, Bool.or_comm]⟩

theorem mem_combine (ds : List Dim) (p : List Nat) (h r : Bool) :
    (p, h, r) ∈ combine ds ↔
      ∃ as, Choice ds as ∧ p = as.map (·.id) ∧ h = as.any (·.hyb) ∧ r = as.any (·.ro) := by
  simp only [mem_combine_point, Prod.mk.injEq]

theorem mem_combine_ids (ds : List Dim) (p : List Nat) :
    p ∈ (combine ds).map (·.1) ↔ ∃ as, Choice ds as ∧ p = as.map (·.id) := by
  simp only [List.mem_map]
  constructor
  · rintro ⟨x, hm, rfl⟩
    obtain ⟨as, hc, rfl⟩ := (mem_combine_point ds x).1 hm
    exact ⟨as, hc, rfl⟩
  · rintro ⟨as, hc, rfl⟩
    exact ⟨_, (mem_combine_point ds _).2 ⟨as, hc, rfl⟩, rfl⟩

theorem Choice.append {d1 d2 : List Dim} {a1 a2 : List Attr}
    (h1 : Choice d1 a1) (h2 : Choice d2 a2) : Choice (d1 ++ d2) (a1 ++ a2) := by
  induction h1 with
  | nil => exact h2
  | skip _ ih => exact .skip ih
  | take hm _ ih => exact .take hm ih

theorem Choice.split {d1 d2 : List Dim} {as : List Attr} (h : Choice (d1 ++ d2) as) :
    ∃ a1 a2, as = a1 ++ a2 ∧ Choice d1 a1 ∧ Choice d2 a2 := by
  induction d1 generalizing as with
  | nil => exact ⟨[], as, rfl, .nil, h⟩
  | cons d ds ih =>
    cases h with
    | skip h =>
      obtain ⟨a1, a2, rfl, h1, h2⟩ := ih h
      exact ⟨a1, a2, rfl, .skip h1, h2⟩
    | take hm h =>
      obtain ⟨a1, a2, rfl, h1, h2⟩ := ih h
      exact ⟨_ :: a1, a2, rfl, .take hm h1, h2⟩

theorem Choice.mem {ds : List Dim} {as : List Attr} (h : Choice ds as) {a : Attr} (ha : a ∈ as) :
    ∃ d ∈ ds, ∃ n, (n, a) ∈ d.attrs := by
  induction h with
  | nil => cases ha
  | skip _ ih => exact (ih ha).imp fun _ h => ⟨List.mem_cons_of_mem _ h.1, h.2⟩
  | take hm _ ih =>
    rcases List.mem_cons.1 ha with rfl | ha
    · exact ⟨_, List.mem_cons_self, _, hm⟩
    · exact (ih ha).imp fun _ h => ⟨List.mem_cons_of_mem _ h.1, h.2⟩

theorem Choice.mem_named {L : List (String × Dim)} {as : List Attr} (h : Choice (L.map (·.2)) as)
    {a : Attr} (ha : a ∈ as) : ∃ p ∈ L, ∃ n, (n, a) ∈ p.2.attrs := by
  obtain ⟨d, hd, n, hn⟩ := h.mem ha
  obtain ⟨p, hp, rfl⟩ := List.mem_map.1 hd
  exact ⟨p, hp, n, hn⟩

end CC
