import CC.Lemmas.World
/-! Disabled attributes over histories: `update_msk` deactivates every right containing a disabled identifier;
nothing re-enables the identifier or re-activates such a right. -/
namespace CC

/-- no right containing the identifier `i` has an activated newest secret -/
def Msk.Quiet (msk : Msk) (i : Nat) : Prop :=
  ∀ ids, i ∈ ids → ∀ v, msk.secrets.getLatest (Right.fromPoint ids) = some v → v.1 = false

theorem Msk.Quiet.of_latest {m m' : Msk} {i : Nat} (hq : m.Quiet i)
    (h : ∀ k, (m'.secrets.getLatest k).map (fun v => (v.1, v.2.hyb)) = (m.secrets.getLatest k).map (fun v => (v.1, v.2.hyb))) :
    m'.Quiet i := by
  intro ids hi v hv
  have := h (Right.fromPoint ids)
  rw [hv] at this
  cases hg : m.secrets.getLatest (Right.fromPoint ids) with
  | none => rw [hg] at this; cases this
  | some v0 =>
    rw [hg] at this
    rw [(Prod.mk.inj (Option.some.inj this)).1]
    exact hq ids hi v0 hg

/-- **`update_msk` deactivates every right containing a disabled identifier**, unless it refuses -/
theorem updateMsk_quiet_or (msk : Msk) (n : Rng) {i : Nat} (hd : msk.structure_.IdDisabled i) :
    updateMsk msk msk.structure_.omega n = (.error .notPermitted, msk, n) ∨
      (updateMsk msk msk.structure_.omega n).2.1.Quiet i := by
  refine (updateMsk_chains msk _ (omega_keys_nodup _) n).imp_right fun ⟨_, h⟩ ids hi v hv => ?_
  have hs := h (Right.fromPoint ids)
  unfold RevMap.getLatest at hv
  generalize msk.secrets.lookup (Right.fromPoint ids) = o at hs
  generalize (updateMsk msk msk.structure_.omega n).2.1.secrets.lookup (Right.fromPoint ids) = o' at hs hv
  cases hs with
  | dropped => cases hv
  | reflag h0 tl hyb ro hm => cases hv; rw [omega_ro_of_disabled hd hm rfl hi]; rfl
  | born _ t hyb _ hm => exact absurd (omega_ro_of_disabled hd hm rfl hi) Bool.false_ne_true

def World.Off (w : World) (i : Nat) : Prop := w.msk.structure_.IdDisabled i ∧ w.msk.Quiet i

/-- nothing re-enables an identifier: no edit does (`Struct.IdDisabled.apply`), and only `update_msk`
touches activation flags -/
theorem World.Off.step {w : World} {i : Nat} (h : w.Off i) (op : Op) : (w.step op).Off i := by
  refine ⟨?_, ?_⟩
  · rcases (step_frame w op).struct with e | ⟨e, he⟩
    · rw [e]; exact h.1
    · exact h.1.apply he
  · exact World.step_cases (P := fun w w' => w.Off i → w'.msk.Quiet i) w op (·.2) (fun _ _ _ h => h.2)
      (fun h => (updateMsk_quiet_or _ _ h.1).elim (fun e => e ▸ h.2) id)
      (fun _ h => h.2.of_latest (rekey_latest _ _ _))
      (fun _ h => h.2.of_latest fun k => by rw [prune_latest])
      (fun _ h => h.2.of_latest fun k => by rw [(uskKeygen_side _ _ _).secrets])
      (fun _ _ h => h.2.of_latest fun k => by rw [(refresh_side _ _ _ _).secrets])
      (fun _ h => h.2) h

theorem step_off (w : World) (op : Op) {i : Nat} (hS : w.msk.structure_.WF ∧ w.msk.structure_.IdsBelow)
    (h : w.Off i) : (w.step op).Off i := h.step op

theorem steps_off (ops : List Op) : ∀ (w : World) {i : Nat}, (w.msk.structure_.WF ∧ w.msk.structure_.IdsBelow) →
    w.Off i → (ops.foldl World.step w).Off i :=
  fun _ i _ h => World.foldl_induction (P := fun w => w.Off i) (fun _ op h => h.step op) h ops

end CC
