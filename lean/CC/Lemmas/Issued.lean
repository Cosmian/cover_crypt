import CC.Lemmas.Rotation
/-! Keys issued by the master key stay refreshable: signing key and tracing level never change, registered
identifiers of the current level are never removed, master chains are never empty. -/
namespace CC

/-- `usk` is a key this master key issued (by generation or refresh): its signature verifies, its
identifier is registered and has the master key's tracing level -/
def Issued (msk : Msk) (usk : Usk) : Prop :=
  verify msk usk = true ∧ usk.id ∈ msk.users ∧ usk.id.length = msk.ntracers

def SameAuthority (m m' : Msk) : Prop :=
  m'.signKey = m.signKey ∧ m'.ntracers = m.ntracers ∧ ∀ id ∈ m.users, id.length = m.ntracers → id ∈ m'.users

theorem SameAuthority.issued {m m' : Msk} (h : SameAuthority m m') {usk : Usk} (hi : Issued m usk) : Issued m' usk := by
  obtain ⟨hv, hid, hl⟩ := hi
  refine ⟨?_, h.2.2 _ hid hl, by rw [h.2.1]; exact hl⟩
  unfold verify sign at hv ⊢
  rw [h.1]; exact hv

theorem SameAuthority.trans {a b c : Msk} (h1 : SameAuthority a b) (h2 : SameAuthority b c) : SameAuthority a c :=
  ⟨h2.1.trans h1.1, h2.2.1.trans h1.2.1, fun id hid hl => h2.2.2 id (h1.2.2 id hid hl) (by rw [h1.2.1]; exact hl)⟩

theorem Msk.Frame.same {m m' : Msk} {n n' : Rng} (h : m.Frame n m' n') : SameAuthority m m' :=
  ⟨h.signKey, h.ntracers, h.kept⟩

theorem issued_stable (w : World) (ops : List Op) (usk : Usk) (h : Issued w.msk usk) :
    Issued (ops.foldl World.step w).msk usk :=
  World.foldl_induction (P := fun w => Issued w.msk usk) (fun w op h => (step_frame w op).same.issued h) h ops

theorem keygen_issues (msk : Msk) (rights : List Right) (n : Rng) (usk : Usk)
    (h : (uskKeygen msk rights n).1 = .ok usk) : Issued (uskKeygen msk rights n).2.1 usk := by
  obtain ⟨chains, -, -, rfl, e⟩ := uskKeygen_ok_spec h
  rw [e]
  exact ⟨decide_eq_true rfl, Msk.mem_register.2 (.inr rfl), msk.length_freshId n⟩

theorem keygen_step_issues {w : World} {p : AP} {rights : List Right}
    (hr : w.msk.structure_.uskRights p = .ok rights) {usk : Usk}
    (hk : (uskKeygen w.msk rights w.rng).1 = .ok usk) : Issued (w.step (.keygen p)).msk usk := by
  simp only [World.step, hr]; exact keygen_issues w.msk rights w.rng usk hk

/-- **An issued key is always refreshable**, with either flag, in every reachable world, whatever was
rekeyed, pruned or deleted since it was issued -/
theorem issued_refresh_ok (w : World) (hw : Reachable w) (usk : Usk) (hi : Issued w.msk usk) (keep : Bool) :
    (refresh w.msk usk keep w.rng).1 = .ok () :=
  (refresh_ok_iff w.msk usk keep w.rng).2 ⟨hi.1, hi.2.1, .inl hi.2.2, .inr fun _ hr =>
    (reachable_nonEmpty w hw).getLatest_isSome (List.mem_filter.1 hr).2⟩

end CC
