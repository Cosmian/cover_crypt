import CC.Spec.Cover
import CC.Lemmas.Edits
import CC.Lemmas.Comb
import CC.Lemmas.Leb
/-! The combinatorial core of C01 / C02: the rights in the complementary space of a user policy
that are also rights of an encryption policy exist exactly when the name-level cover relation
holds. -/
namespace CC

/-- a clause as (dimension, name) pairs names each dimension at most once -/
def ClauseNodup (cl : List QA) : Prop := (cl.map (·.dim)).Nodup

theorem Dim.restrict_ok {d r : Dim} {y : String} : d.restrict y = some r ↔ ∃ a, d.attrs.lookup y = some a ∧
    r = { d with attrs := if d.ordered then d.attrs.takeWhile (fun p => p.1 != y) ++ [(y, a)] else [(y, a)] } := by
  unfold Dim.restrict
  cases d.attrs.lookup y <;> cases d.ordered <;> simp [eq_comm (b := r)]

theorem restrict_sub {d r : Dim} {y : String} (h : d.restrict y = some r) :
    ∀ q, q ∈ r.attrs → q ∈ d.attrs := by
  obtain ⟨a, ha, rfl⟩ := Dim.restrict_ok.1 h
  cases d.ordered <;> intro q hq
  · exact List.mem_singleton.1 hq ▸ lookup_mem ha
  · rcases List.mem_append.1 hq with hq | hq
    · exact (List.takeWhile_sublist _).subset hq
    · exact List.mem_singleton.1 hq ▸ lookup_mem ha

theorem findIdx_lt_iff {l : List (String × Attr)} {x : String} :
    l.findIdx (fun p => p.1 == x) < l.length ↔ ∃ a, (x, a) ∈ l := by
  rw [List.findIdx_lt_length]
  constructor
  · rintro ⟨⟨k, a⟩, hm, hk⟩
    simp only [beq_iff_eq] at hk; subst hk; exact ⟨a, hm⟩
  · rintro ⟨a, hm⟩; exact ⟨(x, a), hm, beq_self_eq_true x⟩

theorem pos_isSome_iff {d : Dim} {x : String} : (Spec.pos d x).isSome = true ↔ ∃ a, (x, a) ∈ d.attrs := by
  rw [← findIdx_lt_iff]
  unfold Spec.pos
  by_cases h : d.attrs.findIdx (fun p => p.1 == x) < d.attrs.length <;>
    simp only [h, ↓reduceIte, Option.isSome_some, Option.isSome_none, Bool.false_eq_true]

theorem pos_eq_some {d : Dim} {x : String} {i : Nat} (h : Spec.pos d x = some i) :
    i = d.attrs.findIdx (fun p => p.1 == x) ∧ i < d.attrs.length := by
  unfold Spec.pos at h
  by_cases hlt : d.attrs.findIdx (fun p => p.1 == x) < d.attrs.length
  · rw [if_pos hlt] at h; cases h; exact ⟨rfl, hlt⟩
  · rw [if_neg hlt] at h; cases h

/-- the order of the specification, without the detour through `Option` -/
theorem leq_iff {d : Dim} {x y : String} : Spec.leq d x y = true ↔
    (∃ a, (x, a) ∈ d.attrs) ∧ (∃ b, (y, b) ∈ d.attrs) ∧
      if d.ordered then d.attrs.findIdx (fun p => p.1 == x) ≤ d.attrs.findIdx (fun p => p.1 == y) else x = y := by
  rw [← findIdx_lt_iff, ← findIdx_lt_iff]
  unfold Spec.leq Spec.pos
  by_cases hx : d.attrs.findIdx (fun p => p.1 == x) < d.attrs.length <;>
    by_cases hy : d.attrs.findIdx (fun p => p.1 == y) < d.attrs.length <;>
    simp only [hx, hy, if_true, if_false, true_and, false_and, Bool.false_eq_true]
  cases d.ordered <;> simp only [Bool.false_eq_true, ↓reduceIte, beq_iff_eq, decide_eq_true_eq]

/-- the names at the first `j + 1` positions are those whose position is at most `j` -/
theorem exists_mem_take_succ_iff {l : List (String × Attr)} {x : String} {j : Nat} :
    (∃ a, (x, a) ∈ l.take (j + 1)) ↔
      l.findIdx (fun p => p.1 == x) ≤ j ∧ l.findIdx (fun p => p.1 == x) < l.length := by
  constructor
  · rintro ⟨a, ha⟩
    obtain ⟨i, hi, e⟩ := List.mem_take_iff_getElem.1 ha
    have hle : l.findIdx (fun p => p.1 == x) ≤ i := Nat.le_of_not_lt fun hlt => by
      have := List.not_of_lt_findIdx hlt
      rw [e, beq_self_eq_true] at this
      cases this
    exact ⟨Nat.le_trans hle (Nat.le_of_lt_succ (Nat.lt_of_lt_of_le hi (Nat.min_le_left ..))),
      Nat.lt_of_le_of_lt hle (Nat.lt_of_lt_of_le hi (Nat.min_le_right ..))⟩
  · rintro ⟨hle, hlt⟩
    refine ⟨l[l.findIdx (fun p => p.1 == x)].2, List.mem_take_iff_getElem.2 ⟨_, Nat.lt_min.2 ⟨Nat.lt_succ_of_le hle, hlt⟩, ?_⟩⟩
    exact Prod.ext (beq_iff_eq.1 (List.findIdx_getElem (w := hlt))) rfl

/-- up to and including the entry of `y` -/
theorem takeWhile_ne_append {l : List (String × Attr)} (hnd : (l.map (·.1)).Nodup) {y : String} {b : Attr}
    (hb : (y, b) ∈ l) :
    l.takeWhile (fun p => p.1 != y) ++ [(y, b)] = l.take (l.findIdx (fun p => p.1 == y) + 1) := by
  obtain ⟨i, hi⟩ := List.mem_iff_getElem?.1 hb
  obtain ⟨hlt, hget⟩ := List.getElem?_eq_some_iff.1 hi
  -- names being distinct, `y` is first found where it is
  have hj : l.findIdx (fun p => p.1 == y) = i :=
    (List.findIdx_eq hlt).2 ⟨by rw [hget]; exact beq_self_eq_true y, fun j hji =>
      beq_false_of_ne (key_ne_of_getElem? hnd hi (List.getElem?_eq_getElem _) (Nat.ne_of_lt hji))⟩
  have : (fun p : String × Attr => !(p.1 != y)) = fun p => p.1 == y := funext fun p => Bool.not_not _
  rw [List.takeWhile_eq_take_findIdx_not, this, hj, List.take_succ_eq_append_getElem hlt, hget]

/-- `x` survives `Dimension::restrict` at `y` iff `x ≤ y` in the order of the specification -/
theorem restrict_mem_iff_leq {d : Dim} (hnd : (d.attrs.map (·.1)).Nodup) {x y : String}
    (hy : ∃ b, (y, b) ∈ d.attrs) :
    (∃ r a, d.restrict y = some r ∧ (x, a) ∈ r.attrs) ↔ Spec.leq d x y = true := by
  obtain ⟨b, hb⟩ := hy
  have hr := Dim.restrict_ok.2 ⟨b, (lookup_eq_some_iff_mem hnd).2 hb, rfl⟩
  rw [leq_iff]
  refine Iff.trans (b := ∃ a, (x, a) ∈
      (if d.ordered then d.attrs.takeWhile (fun p => p.1 != y) ++ [(y, b)] else [(y, b)]))
    ⟨fun ⟨_, a, e, h⟩ => ⟨a, ?_⟩, fun ⟨a, h⟩ => ⟨_, a, hr, h⟩⟩ ?_
  · rw [hr] at e; cases e; exact h
  cases d.ordered
  · -- anarchy: only `y` itself
    simp only [Bool.false_eq_true, if_false, List.mem_singleton, Prod.mk.injEq]
    exact ⟨fun ⟨a, hx, _⟩ => ⟨⟨b, hx ▸ hb⟩, ⟨b, hb⟩, hx⟩, fun ⟨_, _, hx⟩ => ⟨b, hx, rfl⟩⟩
  · -- hierarchy: the names up to the position of `y`
    rw [if_pos rfl, takeWhile_ne_append hnd hb, exists_mem_take_succ_iff]
    exact ⟨fun ⟨hle, hlt⟩ => ⟨findIdx_lt_iff.1 hlt, ⟨b, hb⟩, hle⟩, fun ⟨hx, _, hle⟩ => ⟨hle, findIdx_lt_iff.2 hx⟩⟩

theorem getAttribute_ok_iff {S : Struct} {q : QA} {a : Attr} :
    S.getAttribute q = .ok a ↔ ∃ d, S.dims.lookup q.dim = some d ∧ d.attrs.lookup q.name = some a := by
  unfold Struct.getAttribute
  cases S.dims.lookup q.dim with
  | none => simp only [reduceCtorEq, false_and, exists_const]
  | some d =>
    cases hl : d.attrs.lookup q.name <;>
      simp only [hl, reduceCtorEq, Except.ok.injEq, Option.some.injEq, exists_eq_left']

theorem clauseKnown_iff {S : Struct} {cl : List QA} : Spec.clauseKnown S cl = true ↔
    ∀ q ∈ cl, ∃ d b, S.dims.lookup q.dim = some d ∧ (q.name, b) ∈ d.attrs := by
  unfold Spec.clauseKnown
  rw [List.all_eq_true]
  refine forall_congr' fun q => forall_congr' fun _ => ?_
  cases S.dims.lookup q.dim with
  | none => exact ⟨fun h => (nomatch h), fun ⟨_, _, h, _⟩ => (nomatch h)⟩
  | some d =>
    exact pos_isSome_iff.trans ⟨fun ⟨b, hb⟩ => ⟨d, b, rfl, hb⟩, fun ⟨_, b, e, hb⟩ => by cases e; exact ⟨b, hb⟩⟩

theorem known_getAttribute {S : Struct} {cl : List QA} (hk : Spec.clauseKnown S cl = true) {q : QA}
    (hq : q ∈ cl) : ∃ a, S.getAttribute q = .ok a := by
  obtain ⟨d, b, hd, hb⟩ := clauseKnown_iff.1 hk q hq
  obtain ⟨a, ha⟩ := lookup_of_mem hb
  exact ⟨a, getAttribute_ok_iff.2 ⟨d, hd, ha⟩⟩

theorem encAttrs_ok {S : Struct} {ε : List QA} (h : Spec.clauseKnown S ε = true) :
    ∃ eas, mapMExcept S.getAttribute ε = .ok eas :=
  mapMExcept_ok fun _ hq => known_getAttribute h hq

/-- on a clause naming each dimension once nothing is overwritten: the semantic space lists the
clause's dimensions in clause order, each restricted at the attribute named there -/
theorem semanticSpace_spec {S : Struct} : ∀ {cl : List QA} {sem}, ClauseNodup cl → S.semanticSpace cl = .ok sem →
    sem.map (·.1) = cl.map (·.dim) ∧
    ∀ p ∈ sem, ∃ q ∈ cl, q.dim = p.1 ∧ ∃ d, S.dims.lookup p.1 = some d ∧ d.restrict q.name = some p.2
  | [], sem, _, h => by cases h; exact ⟨rfl, nofun⟩
  | q :: rest, sem, hnd, h => by
    rw [ClauseNodup, List.map_cons, List.nodup_cons] at hnd
    rw [Struct.semanticSpace] at h
    split at h
    · cases h
    split at h
    · cases h
    split at h
    · cases h
    rename_i _ d hd _ r hr _ tl ht
    obtain ⟨hk, hm⟩ := semanticSpace_spec hnd.2 ht
    rw [if_neg (by rw [lookup_eq_none_iff_keys.2 (hk ▸ hnd.1)]; exact Bool.false_ne_true)] at h
    cases h
    refine ⟨congrArg _ hk, List.forall_mem_cons.2 ⟨⟨q, List.mem_cons_self, rfl, d, hd, hr⟩, fun p hp => ?_⟩⟩
    obtain ⟨q', hq', h'⟩ := hm p hp
    exact ⟨q', List.mem_cons_of_mem _ hq', h'⟩

theorem semanticSpace_ok {S : Struct} : ∀ {cl : List QA}, Spec.clauseKnown S cl = true →
    ∃ sem, S.semanticSpace cl = .ok sem
  | [], _ => ⟨[], rfl⟩
  | q :: rest, hk => by
    obtain ⟨d, b, hd, hb⟩ := clauseKnown_iff.1 hk q List.mem_cons_self
    obtain ⟨a, ha⟩ := lookup_of_mem hb
    obtain ⟨tl, ht⟩ := semanticSpace_ok (cl := rest)
      (clauseKnown_iff.2 fun q' hq' => clauseKnown_iff.1 hk q' (List.mem_cons_of_mem _ hq'))
    simp only [Struct.semanticSpace, hd, Dim.restrict_ok.2 ⟨a, ha, rfl⟩, ht]
    exact ⟨_, rfl⟩

theorem mem_complementaryPoints {S : Struct} {cl : List QA} {sem : List (String × Dim)}
    (hsem : S.semanticSpace cl = .ok sem) (p : List Nat) :
    (∃ pts, S.complementaryPoints cl = .ok pts ∧ p ∈ pts) ↔ ∃ a1 a2,
      Choice ((S.dims.filter (fun q => (sem.lookup q.1).isNone)).map (·.2)) a1 ∧
      Choice (sem.map (·.2)) a2 ∧ p = a1.map (·.id) ++ a2.map (·.id) := by
  simp only [Struct.complementaryPoints, hsem, Except.ok.injEq, exists_eq_left', List.mem_flatMap, List.mem_map]
  constructor
  · rintro ⟨⟨pre, h, r⟩, hpre, suf, ⟨⟨suf', h', r'⟩, hsuf, rfl⟩, rfl⟩
    obtain ⟨a1, hc1, rfl, _, _⟩ := (mem_combine _ _ _ _).1 hpre
    obtain ⟨a2, hc2, rfl, _, _⟩ := (mem_combine _ _ _ _).1 hsuf
    exact ⟨a1, a2, hc1, hc2, rfl⟩
  · rintro ⟨a1, a2, h1, h2, rfl⟩
    exact ⟨(_, _, _), (mem_combine _ _ _ _).2 ⟨a1, h1, rfl, rfl, rfl⟩, _,
      ⟨(_, _, _), (mem_combine _ _ _ _).2 ⟨a2, h2, rfl, rfl, rfl⟩, rfl⟩, rfl⟩

/-- a choice that takes in each dimension the attribute `P` designates there, if any -/
theorem Choice.exists_of {L : List (String × Dim)} (P : String → Attr → Prop)
    (huniq : ∀ dn a a', P dn a → P dn a' → a = a')
    (hmem : ∀ p ∈ L, ∀ a, P p.1 a → ∃ n, (n, a) ∈ p.2.attrs) :
    ∃ as, Choice (L.map (·.2)) as ∧ ∀ a, a ∈ as ↔ ∃ p ∈ L, P p.1 a := by
  induction L with
  | nil => exact ⟨[], .nil, by simp⟩
  | cons p L ih =>
    obtain ⟨as, hc, hm⟩ := ih fun p hp => hmem p (List.mem_cons_of_mem _ hp)
    by_cases h : ∃ a, P p.1 a
    · obtain ⟨a, ha⟩ := h
      obtain ⟨n, hn⟩ := hmem p List.mem_cons_self a ha
      refine ⟨a :: as, .take hn hc, fun a' => ?_⟩
      simp only [List.mem_cons, hm, or_and_right, exists_or, exists_eq_left]
      exact or_congr_left ⟨fun e => e ▸ ha, fun ha' => huniq _ _ _ ha' ha⟩
    · refine ⟨as, .skip hc, fun a' => ?_⟩
      simp only [List.mem_cons, hm, or_and_right, exists_or, exists_eq_left]
      exact (or_iff_right fun ha' => h ⟨a', ha'⟩).symm

/-- the restriction-level cover relation between a user clause and an encryption clause -/
def Covers' (S : Struct) (cl ε : List QA) : Prop :=
  ∀ qx ∈ ε, ∀ qy ∈ cl, qy.dim = qx.dim →
    ∃ d r a, S.dims.lookup qx.dim = some d ∧ d.restrict qy.name = some r ∧ (qx.name, a) ∈ r.attrs

theorem clause_unique {cl : List QA} {q q' : QA} (hnd : ClauseNodup cl) (hq : q ∈ cl) (hq' : q' ∈ cl)
    (hd : q.dim = q'.dim) : q = q' :=
  (nodup_map_iff (nodup_of_nodup_map _ hnd)).1 hnd q hq q' hq' hd

/-- **Security half** (C02): a point of the complementary space of a user clause that is a
permutation of the point of an encryption clause forces the cover relation. -/
theorem cover_sound {S : Struct} (hS : S.WF) {cl ε : List QA} (hcl : ClauseNodup cl)
    {sem} (hsem : S.semanticSpace cl = .ok sem) {eas} (heas : mapMExcept S.getAttribute ε = .ok eas)
    {a1 a2 : List Attr}
    (h1 : Choice ((S.dims.filter (fun q => (sem.lookup q.1).isNone)).map (·.2)) a1)
    (h2 : Choice (sem.map (·.2)) a2)
    (hperm : (a1.map (·.id) ++ a2.map (·.id)).Perm (eas.map (·.id))) : Covers' S cl ε := by
  obtain ⟨hnames, hsem2⟩ := semanticSpace_spec hcl hsem
  intro qx hx qy hy hdim
  obtain ⟨ax, haxm, hqx⟩ := mapMExcept_of_mem heas hx
  obtain ⟨d, hd, hax⟩ := getAttribute_ok_iff.1 hqx
  have htx : (qx.dim, qx.name, ax) ∈ S.all := mem_all (lookup_mem hd) (lookup_mem hax)
  -- the point holds the identifier of `ax`, and only `ax` carries it
  rw [← List.map_append] at hperm
  obtain ⟨a, ha, haid⟩ := List.mem_map.1 (hperm.mem_iff.2 (List.mem_map.2 ⟨ax, haxm, rfl⟩))
  rcases List.mem_append.1 ha with ha | ha
  · -- not chosen among the dimensions the user clause leaves alone: it names `qx.dim`
    obtain ⟨p, hp, n, hn⟩ := h1.mem_named ha
    obtain ⟨hpS, hnone⟩ := List.mem_filter.1 hp
    have : p.1 = qx.dim := congrArg (·.1) (hS.ids _ (mem_all hpS hn) _ htx haid)
    have hin : p.1 ∈ sem.map (·.1) := by rw [hnames, this]; exact List.mem_map.2 ⟨qy, hy, hdim⟩
    exact absurd hin (lookup_eq_none_iff_keys.1 (Option.isNone_iff_eq_none.1 hnone))
  · -- chosen in a restricted dimension: that of `qy`, so it survived the restriction
    obtain ⟨p, hp, n, hn⟩ := h2.mem_named ha
    obtain ⟨q', hq', hdimq', d', hd', hr'⟩ := hsem2 p hp
    have := hS.ids _ (mem_all (lookup_mem hd') (restrict_sub hr' _ hn)) _ htx haid
    simp only [Prod.mk.injEq] at this
    obtain ⟨e1, rfl, rfl⟩ := this
    cases clause_unique hcl hq' hy (by rw [hdimq', e1, hdim])
    rw [e1, hd] at hd'; cases hd'
    exact ⟨d, p.2, a, hd, hr', hn⟩

/-- **Correctness half** (C01): a covered encryption clause has a point in the complementary space
of the user clause with exactly its identifiers. -/
theorem cover_complete {S : Struct} (hS : S.WF) {cl ε : List QA} (hcl : ClauseNodup cl) (hε : ClauseNodup ε)
    {sem} (hsem : S.semanticSpace cl = .ok sem) {eas} (heas : mapMExcept S.getAttribute ε = .ok eas)
    (hcov : Covers' S cl ε) :
    ∃ a1 a2, Choice ((S.dims.filter (fun q => (sem.lookup q.1).isNone)).map (·.2)) a1 ∧
      Choice (sem.map (·.2)) a2 ∧ ∀ i, i ∈ a1.map (·.id) ++ a2.map (·.id) ↔ i ∈ eas.map (·.id) := by
  obtain ⟨-, hsem2⟩ := semanticSpace_spec hcl hsem
  -- in every dimension, choose the attribute the encryption clause names there, if any
  let P : String → Attr → Prop := fun dn a => ∃ q ∈ ε, q.dim = dn ∧ S.getAttribute q = .ok a
  have huniq : ∀ dn a a', P dn a → P dn a' → a = a' := by
    rintro dn a a' ⟨q, hq, rfl, ha⟩ ⟨q', hq', e, ha'⟩
    cases clause_unique hε hq' hq e
    rw [ha] at ha'; cases ha'; rfl
  obtain ⟨a1, hc1, hm1⟩ := Choice.exists_of (L := S.dims.filter (fun q => (sem.lookup q.1).isNone)) P huniq (by
    rintro p hp a ⟨q, hq, e, ha⟩
    obtain ⟨d, hd, hl⟩ := getAttribute_ok_iff.1 ha
    rw [e, (lookup_eq_some_iff_mem hS.dims).2 (List.mem_filter.1 hp).1] at hd
    cases hd
    exact ⟨q.name, lookup_mem hl⟩)
  obtain ⟨a2, hc2, hm2⟩ := Choice.exists_of (L := sem) P huniq (by
    -- in a dimension the user clause restricts, the named attribute survives: that is the cover relation
    rintro p hp a ⟨q, hq, e, ha⟩
    obtain ⟨d, hd, hl⟩ := getAttribute_ok_iff.1 ha
    obtain ⟨qy, hy, hdimy, d0, hd0, hr⟩ := hsem2 p hp
    obtain ⟨d', r', a', hd', hr', ha'⟩ := hcov q hq qy hy (hdimy.trans e.symm)
    rw [hd] at hd'; cases hd'
    rw [← e, hd] at hd0; cases hd0
    rw [hr] at hr'; cases hr'
    have := (lookup_eq_some_iff_mem (hS.names _ (lookup_mem hd))).2 (restrict_sub hr _ ha')
    rw [hl] at this; cases this
    exact ⟨q.name, ha'⟩)
  refine ⟨a1, a2, hc1, hc2, fun i => ?_⟩
  simp only [List.mem_append, List.mem_map, hm1, hm2]
  constructor
  · rintro (⟨a, ⟨_, _, q, hq, _, ha⟩, rfl⟩ | ⟨a, ⟨_, _, q, hq, _, ha⟩, rfl⟩) <;>
      exact ⟨a, (mapMExcept_mem heas).2 ⟨q, hq, ha⟩, rfl⟩
  · rintro ⟨a, ha, rfl⟩
    obtain ⟨q, hq, hqa⟩ := (mapMExcept_mem heas).1 ha
    obtain ⟨d, hd, _⟩ := getAttribute_ok_iff.1 hqa
    cases hl : sem.lookup q.dim with
    | none => exact .inl ⟨a, ⟨(q.dim, d), List.mem_filter.2 ⟨lookup_mem hd, by rw [hl]; rfl⟩, q, hq, rfl, hqa⟩, rfl⟩
    | some r => exact .inr ⟨a, ⟨(q.dim, r), lookup_mem hl, q, hq, rfl, hqa⟩, rfl⟩

theorem coversClause_iff {S : Struct} (hS : S.WF) {cl ε : List QA} (hk : Spec.clauseKnown S cl = true) :
    Spec.coversClause S cl ε = true ↔ Covers' S cl ε := by
  unfold Spec.coversClause Covers'
  simp only [List.all_eq_true]
  refine forall_congr' fun qx => forall_congr' fun hx => forall_congr' fun qy => forall_congr' fun hy => ?_
  by_cases hdim : qy.dim = qx.dim
  · obtain ⟨d, b, hd, hb⟩ := clauseKnown_iff.1 hk qy hy
    rw [hdim] at hd
    have hnd := hS.names (qx.dim, d) (lookup_mem hd)
    simp only [hdim, bne_self_eq_false, Bool.false_or, hd, forall_const, ← restrict_mem_iff_leq hnd ⟨b, hb⟩]
    exact ⟨fun ⟨r, a, h⟩ => ⟨d, r, a, rfl, h⟩, fun ⟨_, r, a, e, h⟩ => by cases e; exact ⟨r, a, h⟩⟩
  · rw [bne_iff_ne.2 hdim]
    exact iff_of_true rfl fun e => absurd e hdim

theorem choice_ids_nodup {S : Struct} (hS : S.WF) : ∀ {L : List (String × Dim)} {as : List Attr},
    (L.map (·.1)).Nodup → (∀ p ∈ L, ∀ q ∈ p.2.attrs, (p.1, q.1, q.2) ∈ S.all) →
    Choice (L.map (·.2)) as → (as.map (·.id)).Nodup
  | [], as, _, _, h => by cases h; exact List.nodup_nil
  | p :: L, as, hL, hsub, h => by
    simp only [List.map_cons, List.nodup_cons] at hL
    have ih := fun as' (h' : Choice (L.map (·.2)) as') =>
      choice_ids_nodup hS hL.2 (fun p' hp' => hsub p' (List.mem_cons_of_mem _ hp')) h'
    cases h with
    | skip h' => exact ih _ h'
    | take hm h' =>
      rename_i as' n a
      simp only [List.map_cons, List.nodup_cons]
      refine ⟨fun hin => ?_, ih _ h'⟩
      -- an attribute of a later dimension with the same identifier would be this one
      obtain ⟨a', ha', hid⟩ := List.mem_map.1 hin
      obtain ⟨p', hp', n', hn'⟩ := h'.mem_named ha'
      have := hS.ids _ (hsub p' (List.mem_cons_of_mem _ hp') (n', a') hn') _ (hsub p List.mem_cons_self (n, a) hm) hid
      exact hL.1 (List.mem_map.2 ⟨p', hp', congrArg (·.1) this⟩)

theorem encAttrs_ids_nodup {S : Struct} (hS : S.WF) {ε : List QA} {eas : List Attr} (hnd : ClauseNodup ε)
    (h : mapMExcept S.getAttribute ε = .ok eas) : (eas.map (·.id)).Nodup := by
  -- two entries with the same identifier name the same attribute, so the same dimension
  have : (ε.map S.getAttribute).Pairwise fun x y => ∀ a b, x = .ok a → y = .ok b → a.id ≠ b.id :=
    List.pairwise_map.2 ((List.pairwise_map.1 hnd).imp fun hne a b ha hb hid => by
      obtain ⟨d, hd, hl⟩ := getAttribute_ok_iff.1 ha
      obtain ⟨d', hd', hl'⟩ := getAttribute_ok_iff.1 hb
      exact hne (congrArg (·.1) (hS.ids _ (mem_all (lookup_mem hd) (lookup_mem hl)) _
        (mem_all (lookup_mem hd') (lookup_mem hl')) hid)))
  rw [mapMExcept_eq_ok.1 h, List.pairwise_map] at this
  exact List.pairwise_map.2 (this.imp fun h => h _ _ rfl rfl)

theorem complementaryPoints_ok {S : Struct} {cl : List QA} (hk : Spec.clauseKnown S cl = true) :
    ∃ pts, S.complementaryPoints cl = .ok pts := by
  obtain ⟨sem, hsem⟩ := semanticSpace_ok hk
  simp only [Struct.complementaryPoints, hsem]
  exact ⟨_, rfl⟩

/-- **One user clause against one encryption clause**: a point of the complementary space of the
user clause gives the right of the encryption clause iff the name-level cover relation holds. -/
theorem clause_right_iff {S : Struct} (hS : S.WF) {cl ε : List QA}
    (hcl : ClauseNodup cl) (hε : ClauseNodup ε)
    (hkc : Spec.clauseKnown S cl = true) (hkε : Spec.clauseKnown S ε = true) :
    ∃ pts eas, S.complementaryPoints cl = .ok pts ∧ mapMExcept S.getAttribute ε = .ok eas ∧
      ((∃ p ∈ pts, Right.fromPoint p = Right.fromPoint (eas.map (·.id))) ↔ Spec.coversClause S cl ε = true) := by
  obtain ⟨sem, hsem⟩ := semanticSpace_ok hkc
  obtain ⟨eas, heas⟩ := encAttrs_ok hkε
  obtain ⟨pts, hpts⟩ := complementaryPoints_ok hkc
  refine ⟨pts, eas, hpts, heas, ?_⟩
  rw [coversClause_iff hS hkc]
  obtain ⟨hnames, hsem2⟩ := semanticSpace_spec hcl hsem
  constructor
  · rintro ⟨p, hp, heq⟩
    obtain ⟨a1, a2, h1, h2, rfl⟩ := (mem_complementaryPoints hsem p).1 ⟨pts, hpts, hp⟩
    exact cover_sound hS hcl hsem heas h1 h2 ((Right.fromPoint_eq_iff _ _).1 heq)
  · intro hcov
    obtain ⟨a1, a2, h1, h2, hids⟩ := cover_complete hS hcl hε hsem heas hcov
    obtain ⟨pts', hp', hin⟩ := (mem_complementaryPoints hsem _).2 ⟨a1, a2, h1, h2, rfl⟩
    rw [hpts] at hp'; cases hp'
    refine ⟨_, hin, (Right.fromPoint_eq_iff _ _).2 ?_⟩
    refine (List.perm_ext_iff_of_nodup ?_ (encAttrs_ids_nodup hS hε heas)).2 hids
    rw [← List.map_append]
    have hch := Choice.append h1 h2
    rw [← List.map_append] at hch
    refine choice_ids_nodup hS ?_ ?_ hch
    · -- names of the untouched dimensions and of the restricted ones are all distinct
      rw [List.map_append, List.nodup_append]
      refine ⟨hS.dims.sublist (List.filter_sublist.map _), hnames ▸ hcl, ?_⟩
      rintro x hx _ hy rfl
      obtain ⟨p, hp, rfl⟩ := List.mem_map.1 hx
      have := (List.mem_filter.1 hp).2
      rw [Option.isNone_iff_eq_none, lookup_eq_none_iff_keys] at this
      exact this hy
    · intro p hp q hq
      rcases List.mem_append.1 hp with hp | hp
      · exact mem_all (List.mem_filter.1 hp).1 hq
      · obtain ⟨_, _, _, d, hd, hr⟩ := hsem2 p hp
        exact mem_all (lookup_mem hd) (restrict_sub hr _ hq)

theorem policyWf_clause {S : Struct} {p : AP} (h : Spec.policyWf S p = true) {c : List QA} (hc : c ∈ p.toDnf) :
    Spec.clauseKnown S c = true ∧ ClauseNodup c := by
  have := List.all_eq_true.1 h c hc
  simp only [Bool.and_eq_true] at this
  exact ⟨this.1, by simpa only [ClauseNodup, Spec.clauseWf, decide_eq_true_eq] using this.2⟩

/-- **Policies**: some right of the encapsulation is one of the rights of the user key iff the
name-level cover relation holds between the two policies. -/
theorem rights_meet_iff_covers {S : Struct} (hS : S.WF) {u e : AP}
    (hu : Spec.policyWf S u = true) (he : Spec.policyWf S e = true) :
    ∃ ru re, S.uskRights u = .ok ru ∧ S.encRights e = .ok re ∧
      ((∃ r, r ∈ re ∧ r ∈ ru) ↔ Spec.covers S u e = true) := by
  obtain ⟨ptss, hptss⟩ := mapMExcept_ok (f := S.complementaryPoints) (l := u.toDnf) fun c hc =>
    complementaryPoints_ok (policyWf_clause hu hc).1
  obtain ⟨rs, hrs⟩ := mapMExcept_ok (l := e.toDnf)
    (f := fun cl => (mapMExcept S.getAttribute cl).map fun as => Right.fromPoint (as.map (·.id))) fun ε hε =>
      let ⟨eas, heas⟩ := encAttrs_ok (policyWf_clause he hε).1; ⟨_, by rw [heas]; rfl⟩
  refine ⟨_, _, by rw [Struct.uskRights, hptss], by rw [Struct.encRights, hrs], ?_⟩
  simp only [List.mem_eraseDups, List.mem_map, List.mem_flatten, mapMExcept_mem hptss, mapMExcept_mem hrs]
  unfold Spec.covers
  simp only [List.any_eq_true]
  constructor
  · rintro ⟨r, ⟨ε, hε, hgε⟩, p, ⟨pts, ⟨c, hc, hcpts⟩, hp⟩, hpr⟩
    obtain ⟨hkc, hndc⟩ := policyWf_clause hu hc
    obtain ⟨hkε, hndε⟩ := policyWf_clause he hε
    obtain ⟨pts', eas, hpts', heas, hiff⟩ := clause_right_iff hS hndc hndε hkc hkε
    rw [hcpts] at hpts'; cases hpts'
    rw [heas] at hgε; cases hgε
    exact ⟨c, hc, ε, hε, hiff.1 ⟨p, hp, hpr⟩⟩
  · rintro ⟨c, hc, ε, hε, hcov⟩
    obtain ⟨hkc, hndc⟩ := policyWf_clause hu hc
    obtain ⟨hkε, hndε⟩ := policyWf_clause he hε
    obtain ⟨pts, eas, hpts, heas, hiff⟩ := clause_right_iff hS hndc hndε hkc hkε
    obtain ⟨p, hp, heq⟩ := hiff.2 hcov
    exact ⟨_, ⟨ε, hε, by rw [heas]; rfl⟩, p, ⟨pts, ⟨c, hc, hpts⟩, hp⟩, heq⟩

theorem rights_meet_iff {S : Struct} (hS : S.WF) {u e : AP}
    (hu : Spec.policyWf S u = true) (he : Spec.policyWf S e = true) {ru re : List Right}
    (hru : S.uskRights u = .ok ru) (hre : S.encRights e = .ok re) :
    (∃ r, r ∈ re ∧ r ∈ ru) ↔ Spec.covers S u e = true := by
  obtain ⟨ru', re', h1, h2, hiff⟩ := rights_meet_iff_covers hS hu he
  rw [hru] at h1; cases h1
  rw [hre] at h2; cases h2
  exact hiff

end CC
