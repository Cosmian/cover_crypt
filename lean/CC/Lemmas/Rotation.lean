import CC.Lemmas.World
import CC.Lemmas.Refresh
/-! No chain of the master key is ever empty; what a successful refresh leaves in the user key; the secrets
a rekey publishes are its own draws. -/
namespace CC

def RevMap.NonEmpty (m : RevMap) : Prop := ∀ r c, (r, c) ∈ m → c ≠ []

theorem RevMap.NonEmpty.insert {m : RevMap} (h : m.NonEmpty) (r : Right) (v : Bool × Sk) : (m.insert r v).NonEmpty := by
  unfold RevMap.insert
  split
  · intro k c hm
    obtain ⟨d, hd, ⟨_, rfl⟩ | ⟨_, rfl⟩⟩ := mem_mapVal hm
    · exact List.cons_ne_nil _ _
    · exact h k c hd
  · intro k c hm
    rcases List.mem_append.1 hm with hm | hm
    · exact h k c hm
    · cases List.mem_singleton.1 hm; exact List.cons_ne_nil _ _

theorem RevMap.NonEmpty.retain {m : RevMap} (h : m.NonEmpty) (f : Right → Bool) : (m.retain f).NonEmpty :=
  fun k c hm => h k c (List.mem_filter.1 hm).1

theorem RevMap.NonEmpty.getLatest_isSome {m : RevMap} (h : m.NonEmpty) {r : Right} (hc : m.containsKey r = true) :
    (m.getLatest r).isSome = true := by
  unfold RevMap.containsKey at hc
  unfold RevMap.getLatest
  cases hl : m.lookup r with
  | none => rw [hl] at hc; cases hc
  | some c =>
    cases c with
    | nil => exact absurd rfl (h r [] (lookup_mem hl))
    | cons x xs => rfl

theorem ChainStep.ne_nil {om : List (Right × Bool × Bool)} {k : Right} {n n' : Rng}
    {o o' : Option (List (Bool × Sk))} (h : ChainStep om k n n' o o')
    (ho : ∀ c, o = some c → c ≠ []) : ∀ c, o' = some c → c ≠ [] := by
  cases h with
  | same => exact ho
  | gone => intro c hc; cases hc
  | born | reflag => intro c hc; cases hc; exact List.cons_ne_nil _ _
  | grown c0 news =>
    intro c hc; cases hc
    exact fun h => ho c0 rfl (List.append_eq_nil_iff.1 h).2
  | pruned c0 =>
    intro c hc; cases hc
    cases c0 with
    | nil => exact absurd rfl (ho [] rfl)
    | cons a t => exact List.cons_ne_nil _ _

theorem step_nonEmpty (w : World) (op : Op) (hk : ((w.step op).msk.secrets.map (·.1)).Nodup)
    (h : w.msk.secrets.NonEmpty) : (w.step op).msk.secrets.NonEmpty := fun r c hm =>
  (step_chain w op r).ne_nil (fun c0 h0 => h r c0 (lookup_mem h0)) c ((lookup_eq_some_iff_mem hk).2 hm)

theorem reachable_nonEmpty (w : World) (h : Reachable w) : w.msk.secrets.NonEmpty :=
  h.induction
    (fun n k => step_nonEmpty ⟨(setup n k).1, (setup n k).2⟩ .update (init_inv n k).keys fun _ _ hm => nomatch hm)
    fun w op hr => step_nonEmpty w op (reachable_inv _ (hr.step op)).keys

/-- what a successful refresh leaves in the user key: for every right it keeps — a right the key
held before — the newest secrets of the master key's chain of that right -/
theorem refresh_secrets_spec (msk : Msk) (usk : Usk) (keep : Bool) (n : Rng)
    (h : (refresh msk usk keep n).1 = .ok ()) :
    ∀ r c, (r, c) ∈ (refresh msk usk keep n).2.2.1.secrets →
      ∃ mchain, msk.secrets.lookup r = some mchain ∧ c <+: mchain.map (·.2) ∧
        c.head? = (mchain.map (·.2)).head? ∧ (∃ uc, (r, uc) ∈ usk.secrets) := by
  obtain ⟨-, nid, nr, -, hnr, e⟩ := refresh_ok_spec h
  rw [e]
  intro r c hm
  cases keep with
  | true =>
    cases hnr
    obtain ⟨u, mchain, hu, hl, hc⟩ := mem_refreshCoordinateKeys.1 hm
    exact ⟨mchain, hl, refreshChain_prefix _ _ _ hc, refreshChain_head_eq hc, u, hu⟩
  | false =>
    obtain ⟨hin, act, sk, hlat, rfl⟩ := (latestRightSks_mem msk _ nr hnr r c).1 hm
    obtain ⟨t, hl⟩ := RevMap.getLatest_eq_some_iff.1 hlat
    refine ⟨(act, sk) :: t, hl, List.cons_prefix_cons.2 ⟨rfl, List.nil_prefix⟩, rfl, ?_⟩
    · obtain ⟨p, hp, rfl⟩ := List.mem_map.1 (List.mem_filter.1 hin).1
      exact ⟨p.2, hp⟩

theorem rekey_published_fresh (msk : Msk) (rights : List Right) (n : Rng) (hinv : msk.Inv n)
    (h : (rekey msk rights n).1 = .ok ()) (r : Right) (hr : r ∈ rights) (t : Sk)
    (hk : (rekey msk rights n).2.1.mpk.keyOf r = .ok t) : n ≤ t.tok := by
  have hl := (mpk_keyOf _ (rekey_inv msk rights n hinv).keys r t).1 hk
  rcases rekey_cases msk rights n with ⟨_, e⟩ | ⟨hall, e⟩ <;> rw [e] at h hl
  · cases h
  obtain ⟨act, sk, hfresh, hle⟩ := rekeyLoop_fresh msk.secrets rights n r hr hall
  cases hfresh.symm.trans hl
  exact hle

end CC
