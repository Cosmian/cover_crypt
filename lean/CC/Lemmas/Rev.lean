import CC.Model.Prims
/-! The (repaired) revision iterator yields every secret of every chain, and nothing else; hence `decaps`
as a statement about the key's secrets and the encapsulation's components (`CanOpen`, `decaps_eq_some_iff`,
`decaps_eq_none_iff`). -/
namespace CC

theorem mem_revHeads {chains : RevVec} {x : Right × Sk} :
    x ∈ revHeads chains ↔ ∃ c, (x.1, c) ∈ chains ∧ c.head? = some x.2 := by
  unfold revHeads
  rw [List.mem_filterMap]
  constructor
  · rintro ⟨⟨k, c⟩, hm, h⟩
    obtain ⟨s, hs, rfl⟩ := Option.map_eq_some_iff.1 h
    exact ⟨c, hm, hs⟩
  · rintro ⟨c, hm, hc⟩
    exact ⟨(x.1, c), hm, by rw [hc]; rfl⟩

theorem mem_revTails {chains : RevVec} {k : Right} {c : List Sk} :
    (k, c) ∈ revTails chains ↔ ∃ c', (k, c') ∈ chains ∧ c = c'.tail := by
  unfold revTails
  rw [List.mem_map]
  constructor
  · rintro ⟨⟨k', c'⟩, hm, h⟩
    cases h
    exact ⟨c', hm, rfl⟩
  · rintro ⟨c', hm, rfl⟩
    exact ⟨(k, c'), hm, rfl⟩

theorem mem_revisions (chains : RevVec) (x : Right × Sk) :
    (∃ rev ∈ revisions chains, x ∈ rev) ↔ ∃ c, (x.1, c) ∈ chains ∧ x.2 ∈ c := by
  induction chains using revisions.induct with
  | case1 chains h =>
    rw [revisions, dif_pos h]
    simp only [List.not_mem_nil, false_and, exists_false, false_iff]
    rintro ⟨c, hm, hx⟩
    cases c with
    | nil => cases hx
    | cons s c =>
      have : (x.1, s) ∈ revHeads chains := mem_revHeads.2 ⟨s :: c, hm, rfl⟩
      rw [h] at this; cases this
  | case2 chains h ih =>
    rw [revisions, dif_neg h]
    simp only [List.mem_cons, exists_eq_or_imp]
    rw [ih]
    constructor
    · rintro (hx | ⟨c, hm, hx⟩)
      · obtain ⟨c, hm, hc⟩ := mem_revHeads.1 hx
        exact ⟨c, hm, List.mem_of_mem_head? hc⟩
      · obtain ⟨c', hm', rfl⟩ := mem_revTails.1 hm
        exact ⟨c', hm', List.mem_of_mem_tail hx⟩
    · rintro ⟨c, hm, hx⟩
      cases c with
      | nil => cases hx
      | cons s c =>
        rcases List.mem_cons.1 hx with rfl | hx
        · exact Or.inl (mem_revHeads.2 ⟨_, hm, rfl⟩)
        · exact Or.inr ⟨c, mem_revTails.2 ⟨_, hm, rfl⟩, hx⟩

theorem opens_tok {hybrid : Bool} {s t : Sk} (h : opens hybrid s t = true) : s.tok = t.tok :=
  beq_iff_eq.1 (Bool.and_eq_true_iff.1 h).1

/-- same authority and tracing shape, and one of the key's secrets, in any chain at any depth, opens one
of the components -/
def CanOpen (usk : Usk) (enc : XEnc) : Prop :=
  usk.auth = enc.auth ∧ usk.nps = enc.ntraps ∧ usk.id.length = enc.ntraps ∧
    ∃ r c s t, (r, c) ∈ usk.secrets ∧ s ∈ c ∧ t ∈ enc.targets ∧ opens enc.hybrid s t = true

theorem decaps_eq_some_iff (usk : Usk) (enc : XEnc) (v : Nat) :
    decaps usk enc = some v ↔ v = enc.seed ∧ CanOpen usk enc := by
  -- the loop nest over revisions, components and secrets finds an opening secret iff there is one
  have key : ((revisions usk.secrets).any (fun rev =>
      enc.targets.any (fun t => rev.any (fun p => opens enc.hybrid p.2 t))) = true) ↔
      ∃ r c s t, (r, c) ∈ usk.secrets ∧ s ∈ c ∧ t ∈ enc.targets ∧ opens enc.hybrid s t = true := by
    simp only [List.any_eq_true]
    constructor
    · rintro ⟨rev, hrev, t, ht, p, hp, ho⟩
      obtain ⟨c, hm, hx⟩ := (mem_revisions usk.secrets p).1 ⟨rev, hrev, hp⟩
      exact ⟨p.1, c, p.2, t, hm, hx, ht, ho⟩
    · rintro ⟨r, c, s, t, hm, hs, ht, ho⟩
      obtain ⟨rev, hrev, hp⟩ := (mem_revisions usk.secrets (r, s)).2 ⟨c, hm, hs⟩
      exact ⟨rev, hrev, t, ht, (r, s), hp, ho⟩
  unfold decaps CanOpen
  split
  · rename_i h
    split
    · rename_i hany
      exact ⟨fun hv => ⟨(Option.some.inj hv).symm, h.1, h.2.1, h.2.2, key.1 hany⟩, fun hv => by rw [hv.1]⟩
    · rename_i hany
      exact ⟨fun hv => (nomatch hv), fun hv => absurd (key.2 hv.2.2.2.2) hany⟩
  · rename_i h
    exact ⟨fun hv => (nomatch hv), fun hv => absurd ⟨hv.2.1, hv.2.2.1, hv.2.2.2.1⟩ h⟩

theorem decaps_eq_none_iff (usk : Usk) (enc : XEnc) :
    decaps usk enc = none ↔ ¬ CanOpen usk enc := by
  constructor
  · intro h hc
    have := (decaps_eq_some_iff usk enc enc.seed).2 ⟨rfl, hc⟩
    rw [h] at this; cases this
  · intro h
    cases hd : decaps usk enc with
    | none => rfl
    | some v => exact absurd ((decaps_eq_some_iff usk enc v).1 hd).2 h

end CC
