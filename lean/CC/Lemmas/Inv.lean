import CC.Lemmas.Kem
import CC.Lemmas.Frame
/-! The invariant behind the end-to-end theorems: the rights of the master key are distinct map keys, no
token serves two rights, every token is below the counter. `setup` establishes it, every primitive keeps it. -/
namespace CC

def RevMap.Below (m : RevMap) (n : Nat) : Prop := ∀ r c, (r, c) ∈ m → ∀ s ∈ c, s.2.tok < n

def RevMap.TokInj (m : RevMap) : Prop :=
  ∀ r1 c1 r2 c2 (s1 s2 : Bool × Sk), (r1, c1) ∈ m → (r2, c2) ∈ m → s1 ∈ c1 → s2 ∈ c2 → s1.2.tok = s2.2.tok → r1 = r2

structure RevMap.Inv (m : RevMap) (n : Nat) : Prop where
  keys : (m.map (·.1)).Nodup
  inj : m.TokInj
  below : m.Below n

theorem RevMap.Inv.mono {m : RevMap} {n n' : Nat} (h : m.Inv n) (hle : n ≤ n') : m.Inv n' :=
  ⟨h.keys, h.inj, fun r c hm s hs => Nat.lt_of_lt_of_le (h.below r c hm s hs) hle⟩

/-- the invariant passes to any map with distinct keys whose tokens are old tokens of the same right or,
for the one right `r`, tokens drawn since -/
theorem RevMap.Inv.of_tokens {m m' : RevMap} {n n' : Nat} (h : m.Inv n) (hle : n ≤ n') (r : Right)
    (hk : (m'.map (·.1)).Nodup)
    (hsub : ∀ k c, (k, c) ∈ m' → ∀ s ∈ c,
      (∃ d, (k, d) ∈ m ∧ ∃ s0 ∈ d, s0.2.tok = s.2.tok) ∨ (k = r ∧ n ≤ s.2.tok ∧ s.2.tok < n')) :
    m'.Inv n' := by
  refine ⟨hk, ?_, ?_⟩
  · intro r1 c1 r2 c2 s1 s2 h1 h2 hs1 hs2 ht
    rcases hsub r1 c1 h1 s1 hs1 with ⟨d1, hd1, t1, ht1, e1⟩ | ⟨rfl, l1, _⟩ <;>
      rcases hsub r2 c2 h2 s2 hs2 with ⟨d2, hd2, t2, ht2, e2⟩ | ⟨rfl, l2, _⟩
    · exact h.inj r1 d1 r2 d2 t1 t2 hd1 hd2 ht1 ht2 (by rw [e1, e2, ht])
    · exact absurd (h.below r1 d1 hd1 t1 ht1) (Nat.not_lt.2 (by rw [e1, ht]; exact l2))
    · exact absurd (h.below r2 d2 hd2 t2 ht2) (Nat.not_lt.2 (by rw [e2, ← ht]; exact l1))
    · rfl
  · intro k c hm s hs
    rcases hsub k c hm s hs with ⟨d, hd, t, ht, e⟩ | ⟨_, _, l⟩
    · rw [← e]; exact Nat.lt_of_lt_of_le (h.below k d hd t ht) hle
    · exact l

theorem RevMap.Inv.insert {m : RevMap} {n : Nat} (h : m.Inv n) (r : Right) (act hyb : Bool) :
    (m.insert r (act, ⟨n, hyb⟩)).Inv (n + 1) := by
  have fresh : ∀ k (s : Bool × Sk), k = r → s = (act, ⟨n, hyb⟩) → k = r ∧ n ≤ s.2.tok ∧ s.2.tok < n + 1 :=
    fun k s hk hs => ⟨hk, by rw [hs]; exact Nat.le_refl n, by rw [hs]; exact Nat.lt_succ_self n⟩
  unfold RevMap.insert
  split
  · refine h.of_tokens (Nat.le_succ n) r (by rw [keys_mapVal]; exact h.keys) fun k c hm s hs => ?_
    obtain ⟨d, hd, ⟨hkr, rfl⟩ | ⟨_, rfl⟩⟩ := mem_mapVal hm
    · rcases List.mem_cons.1 hs with e | hs
      · exact .inr (fresh k s hkr e)
      · exact .inl ⟨d, hd, s, hs, rfl⟩
    · exact .inl ⟨c, hd, s, hs, rfl⟩
  · rename_i hl
    have hnotin : r ∉ m.map (·.1) := lookup_eq_none_iff_keys.1 (Option.not_isSome_iff_eq_none.1 hl)
    refine h.of_tokens (Nat.le_succ n) r ?_ fun k c hm s hs => ?_
    · rw [List.map_append, List.nodup_append]
      exact ⟨h.keys, List.pairwise_singleton _ _, fun x hx y hy e =>
        hnotin (by cases List.mem_singleton.1 hy; cases e; exact hx)⟩
    · rcases List.mem_append.1 hm with hm | hm
      · exact .inl ⟨c, hm, s, hs, rfl⟩
      · cases List.mem_singleton.1 hm
        exact .inr (fresh r s rfl (List.mem_singleton.1 hs))

theorem RevMap.Inv.setLatest {m : RevMap} {n : Nat} (h : m.Inv n) (r : Right) (act : Bool) (sk sk' : Sk) (a0 : Bool)
    (hl : m.getLatest r = some (a0, sk)) (htok : sk'.tok = sk.tok) : (m.setLatest r (act, sk')).Inv n := by
  refine h.of_tokens (Nat.le_refl n) r (by unfold RevMap.setLatest; rw [keys_mapVal]; exact h.keys)
    fun k c hm s hs => .inl ?_
  obtain ⟨d, hd, ⟨hkr, rfl⟩ | ⟨_, rfl⟩⟩ := mem_mapVal hm
  · refine ⟨d, hd, ?_⟩
    -- the old chain of `r` starts with the secret whose token the new head has
    obtain ⟨t, ht⟩ := RevMap.getLatest_eq_some_iff.1 hl
    cases (hkr ▸ (lookup_eq_some_iff_mem h.keys).2 hd).symm.trans ht
    rcases List.mem_cons.1 hs with e | hs
    · exact ⟨(a0, sk), List.mem_cons_self, by rw [e]; exact htok.symm⟩
    · exact ⟨s, List.mem_cons_of_mem _ hs, rfl⟩
  · exact ⟨c, hd, s, hs, rfl⟩

theorem RevMap.Inv.retain {m : RevMap} {n : Nat} (h : m.Inv n) (f : Right → Bool) : (m.retain f).Inv n :=
  -- no token is new, so the right that may receive new ones is immaterial
  h.of_tokens (Nat.le_refl n) [] (h.keys.sublist (List.filter_sublist.map _)) fun _ c hm s hs =>
    .inl ⟨c, (List.mem_filter.1 hm).1, s, hs, rfl⟩

theorem RevMap.Inv.keep {m : RevMap} {n : Nat} (h : m.Inv n) (r : Right) (k : Nat) : (m.keep r k).Inv n := by
  refine h.of_tokens (Nat.le_refl n) r (by unfold RevMap.keep; rw [keys_mapVal]; exact h.keys)
    fun q c hm s hs => .inl ?_
  obtain ⟨d, hd, ⟨_, rfl⟩ | ⟨_, rfl⟩⟩ := mem_mapVal hm
  · refine ⟨d, hd, s, ?_, rfl⟩
    unfold RevMap.keepN at hs
    split at hs
    · exact List.mem_of_mem_take hs
    · exact hs
  · exact ⟨c, hd, s, hs, rfl⟩

def Msk.Inv (msk : Msk) (n : Rng) : Prop := msk.secrets.Inv n

theorem Msk.Inv.distinct {msk : Msk} {n : Rng} (h : msk.Inv n) : msk.Distinct :=
  ⟨h.keys, h.inj⟩

theorem setup_inv (n : Rng) (k : Nat) : (setup n k).1.Inv (setup n k).2 :=
  ⟨List.nodup_nil, fun _ _ _ _ _ _ h => (nomatch h), fun _ _ h => (nomatch h)⟩

theorem updateMsk_inv (msk : Msk) (rights : List (Right × Bool × Bool)) (n : Rng) (h : msk.Inv n) :
    (updateMsk msk rights n).2.1.Inv (updateMsk msk rights n).2.2 := by
  rcases updateMsk_cases msk rights n with ⟨_, e⟩ | ⟨_, s, hs, e⟩ <;> rw [e]
  · exact h
  · exact updateLoop_ind (P := RevMap.Inv) rights _ n s
      (fun _ _ r hyb ro a sk _ hg h => h.setLatest r (!ro) sk _ a hg (reflag_tok hyb sk))
      (fun _ _ r hyb _ _ h => h.insert r true hyb) (RevMap.Inv.retain h fun r => (rights.lookup r).isSome) hs

theorem rekey_inv (msk : Msk) (rights : List Right) (n : Rng) (h : msk.Inv n) :
    (rekey msk rights n).2.1.Inv (rekey msk rights n).2.2 := by
  rcases rekey_cases msk rights n with ⟨_, e⟩ | ⟨_, e⟩ <;> rw [e]
  · exact h
  · exact rekeyLoop_ind (P := RevMap.Inv) rights msk.secrets n (fun _ _ r act sk _ _ h => h.insert r act sk.hyb) h

theorem prune_inv (msk : Msk) (rights : List Right) (n : Rng) (h : msk.Inv n) : (prune msk rights).Inv n :=
  prune_ind (P := fun s => s.Inv n) msk rights (fun _ r h => h.keep r 1) h

theorem Msk.UserSide.inv {m m' : Msk} {n n' : Rng} (hu : m.UserSide n m' n') (h : m.Inv n) : m'.Inv n' := by
  unfold Msk.Inv; rw [hu.secrets]; exact RevMap.Inv.mono h hu.rng

end CC
