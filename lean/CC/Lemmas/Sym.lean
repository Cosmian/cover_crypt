import CC.Model.Sym
/-! The idealised AEAD read off once (`aeOpen_eq`, `aeOpen_seal`, `aeOpen_refuses`), and what a successful
`encaps`, `pkeEncrypt`, `hdrGenerate` returned: the inversion lemmas through which the layer theorems (C12)
and the freshness theorems (C16) use these functions without unfolding them. -/
namespace CC

/-- the idealised AEAD in one equation: a box opens under exactly the key and associated data it was
sealed with, and only while intact; every refusal is the same error -/
theorem aeOpen_eq (key : DKey) (ad : Bytes) (c : Sealed) :
    aeOpen key ad c = if c.tamper = .intact ∧ c.key = key ∧ c.ad = ad then .ok c.ptx else .error .crypto := by
  obtain ⟨k, nonce, a, p, t⟩ := c
  cases t <;> simp [aeOpen]

theorem aeOpen_seal (key : DKey) (nonce : Nat) (ad ptx : Bytes) :
    aeOpen key ad (aeSeal key nonce ad ptx) = .ok ptx := by
  rw [aeOpen_eq, if_pos ⟨rfl, rfl, rfl⟩]; rfl

theorem aeOpen_refuses {key : DKey} {ad : Bytes} {c : Sealed}
    (h : ¬ (c.tamper = .intact ∧ c.key = key ∧ c.ad = ad)) : aeOpen key ad c = .error .crypto := by
  rw [aeOpen_eq, if_neg h]

theorem encaps_ok {mpk : Mpk} {t : List Right} {n : Rng} {s : Nat} {x : XEnc}
    (h : (encaps mpk t n).1 = .ok (s, x)) : s = n ∧ x.seed = n ∧ n < (encaps mpk t n).2 := by
  unfold encaps at h ⊢
  split at h
  · cases h
  · cases h; exact ⟨rfl, rfl, Nat.lt_of_lt_of_le (Nat.lt_succ_self n) (Nat.le_add_right _ _)⟩

/-- **a successful `encaps`, read off**: every targeted right has a published key, the components
are made for those keys in the flavour they all support, and the secret is the fresh draw -/
theorem encaps_ok_spec {mpk : Mpk} {t : List Right} {n : Rng} {s : Nat} {x : XEnc}
    (h : (encaps mpk t n).1 = .ok (s, x)) :
    mapMExcept mpk.keyOf t = .ok x.targets ∧ x.hybrid = x.targets.all (·.hyb) ∧
      x.auth = mpk.auth ∧ x.ntraps = mpk.ntracers ∧ x.seed = n ∧ s = n := by
  unfold encaps Mpk.selectSubkeys at h
  cases hm : mapMExcept mpk.keyOf t with
  | error e => rw [hm] at h; cases h
  | ok ks => rw [hm] at h; cases h; exact ⟨rfl, rfl, rfl, rfl, rfl, rfl⟩

theorem pkeEncrypt_ok {mpk : Mpk} {t : List Right} {ptx : Bytes} {n : Rng} {x : XEnc} {c : Sealed}
    (h : (pkeEncrypt mpk t ptx n).1 = .ok (x, c)) :
    (encaps mpk t n).1 = .ok (x.seed, x) ∧ c = aeSeal ⟨x.seed, labelPke⟩ (encaps mpk t n).2 [] ptx ∧
      (pkeEncrypt mpk t ptx n).2 = (encaps mpk t n).2 + 1 := by
  unfold pkeEncrypt at h ⊢
  split at h
  · cases h
  · rename_i seed x0 n' he
    cases h
    obtain ⟨rfl, hx, -⟩ := encaps_ok (congrArg Prod.fst he)
    simp only [he, hx, and_self]

theorem hdrGenerate_ok {mpk : Mpk} {t : List Right} {md ad : Option Bytes} {n : Rng} {sec : DKey} {hd : Header}
    (h : (hdrGenerate mpk t md ad n).1 = .ok (sec, hd)) :
    (encaps mpk t n).1 = .ok (hd.enc.seed, hd.enc) ∧ sec = ⟨hd.enc.seed, labelHdrSecret⟩ ∧
      hd.mdata = md.map (aeSeal ⟨hd.enc.seed, labelHdrKey⟩ (encaps mpk t n).2 (adBytes ad)) ∧
      (hdrGenerate mpk t md ad n).2 = (encaps mpk t n).2 + (if md.isSome then 1 else 0) := by
  unfold hdrGenerate at h ⊢
  split at h
  · cases h
  · rename_i seed x0 n' he
    obtain ⟨rfl, hx, -⟩ := encaps_ok (congrArg Prod.fst he)
    cases md <;> cases h <;> simp [he, hx]

end CC
