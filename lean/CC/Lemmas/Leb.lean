import CC.Model.Structure
/-! LEB128: round trip, length, prefix-freeness; `Right.fromPoint` up to permutation. -/
namespace CC.Leb

theorem continuation_lt (n : Nat) : n % 128 + 128 < 256 := Nat.add_lt_add_right (Nat.mod_lt n (by decide)) 128

theorem dec_enc (n : Nat) (rest : List UInt8) : dec (enc n ++ rest) = some (n, rest) := by
  induction n using enc.induct with
  | case1 n h =>
    rw [enc, dif_pos h]
    simp only [List.cons_append, List.nil_append, dec, UInt8.toNat_ofNat_of_lt' (Nat.lt_trans h (by decide)), h, if_true]
  | case2 n h ih =>
    rw [enc, dif_neg h]
    simp only [List.cons_append, dec, UInt8.toNat_ofNat_of_lt' (continuation_lt n), ih,
      if_neg (Nat.not_lt.2 (Nat.le_add_left _ _)), Nat.add_sub_cancel, Nat.mod_add_div]

theorem enc_length (n : Nat) : (enc n).length = len n := by
  induction n using enc.induct with
  | case1 n h => rw [enc, dif_pos h, len, if_pos h]; rfl
  | case2 n h ih => rw [enc, dif_neg h, len, if_neg h, List.length_cons, ih, Nat.add_comm]

theorem enc_ne_nil (n : Nat) : enc n ≠ [] := by
  rw [enc]; split <;> exact List.cons_ne_nil _ _

/-- a prefix-free code -/
theorem flatMap_enc_inj : ∀ (xs ys : List Nat), xs.flatMap enc = ys.flatMap enc → xs = ys
  | [], [] , _ => rfl
  | [], y :: ys, h => absurd (List.append_eq_nil_iff.1 h.symm).1 (enc_ne_nil y)
  | x :: xs, [], h => absurd (List.append_eq_nil_iff.1 h).1 (enc_ne_nil x)
  | x :: xs, y :: ys, h => by
      rw [List.flatMap_cons, List.flatMap_cons] at h
      have hx := dec_enc x (xs.flatMap enc)
      rw [h, dec_enc] at hx
      obtain ⟨rfl, hr⟩ := Prod.mk.inj (Option.some.inj hx)
      rw [flatMap_enc_inj xs ys hr.symm]

end CC.Leb

namespace CC
open CC.Leb

private theorem le_total' (a b : Nat) : (decide (a ≤ b) || decide (b ≤ a)) = true := by
  rw [Bool.or_eq_true, decide_eq_true_eq, decide_eq_true_eq]; exact Nat.le_total a b
private theorem le_trans' (a b c : Nat) (h1 : decide (a ≤ b) = true) (h2 : decide (b ≤ c) = true) :
    decide (a ≤ c) = true :=
  decide_eq_true (Nat.le_trans (of_decide_eq_true h1) (of_decide_eq_true h2))

theorem Right.fromPoint_eq_iff (p q : List Nat) : Right.fromPoint p = Right.fromPoint q ↔ p.Perm q := by
  unfold Right.fromPoint
  constructor
  · intro h
    have := flatMap_enc_inj _ _ h
    have h1 := List.mergeSort_perm p (fun a b => decide (a ≤ b))
    have h2 := List.mergeSort_perm q (fun a b => decide (a ≤ b))
    rw [this] at h1
    exact h1.symm.trans h2
  · intro h
    congr 1
    apply List.Perm.eq_of_pairwise (le := fun a b => decide (a ≤ b) = true)
    · exact fun a b _ _ h1 h2 => Nat.le_antisymm (of_decide_eq_true h1) (of_decide_eq_true h2)
    · exact List.pairwise_mergeSort le_trans' le_total' p
    · exact List.pairwise_mergeSort le_trans' le_total' q
    · exact (List.mergeSort_perm p _).trans (h.trans (List.mergeSort_perm q _).symm)

end CC
