import CC.Model.Wire
import CC.Lemmas.Leb
import Mathlib.Algebra.Group.Nat.Defs
/-! Round-trip lemmas for the wire model: `decode (encode x ++ rest) = some (x, rest)`.

Trap: this file and its importers build without the Mathlib import, but with it `2 ^ 64` elaborates through
Mathlib's `Monoid.npow` in `decU64Aux_enc`, in `C13.leb_roundtrip` / `clear_roundtrip`, in
`C13Reach.generated_header_roundtrip` and in every `Wf*` / `*Small` definition (the same number, another
term): dropping it changes those statements. -/
namespace CC.Wire
open CC

theorem shift_step (acc n s : Nat) :
    acc + n % 128 * 2 ^ s + n / 128 * 2 ^ (s + 7) = acc + n * 2 ^ s := by
  conv => rhs; rw [← Nat.mod_add_div n 128]
  rw [Nat.add_mul, Nat.add_assoc, Nat.pow_add, Nat.mul_comm 128, Nat.mul_assoc, Nat.mul_comm 128]

theorem shift_room {n s : Nat} (hge : ¬ n < 128) (hn : n < 2 ^ (64 - s)) :
    s + 7 ≤ 63 ∧ n / 128 < 2 ^ (64 - (s + 7)) := by
  have h7 : 7 < 64 - s :=
    (Nat.pow_lt_pow_iff_right (a := 2) (by decide)).1 (Nat.lt_of_le_of_lt (Nat.le_of_not_lt hge : 2 ^ 7 ≤ n) hn)
  refine ⟨Nat.le_of_lt_succ (Nat.add_comm 7 s ▸ Nat.lt_sub_iff_add_lt.1 h7), Nat.div_lt_of_lt_mul ?_⟩
  rwa [show 128 = 2 ^ 7 from rfl, ← Nat.pow_add, Nat.sub_add_eq, Nat.add_sub_cancel' (Nat.le_of_lt h7)]

theorem fuel_succ {s fuel : Nat} (hs : s ≤ 63) (hf : 70 ≤ s + 7 * fuel) :
    ∃ f, fuel = f + 1 ∧ 70 ≤ s + 7 + 7 * f := by
  cases fuel with
  | zero => exact absurd (Nat.le_trans hf hs) (by decide)
  | succ f => exact ⟨f, rfl, by rwa [Nat.mul_succ, Nat.add_comm (7 * f), ← Nat.add_assoc] at hf⟩

/-- `70 ≤ s + 7 * fuel`: the decoder starts at shift 0 with ten bytes of fuel and spends one per seven bits, so
at shift `s` it can still read up to bit 70; that is the invariant of the descent, and it leaves fuel for
every byte of a value below `2 ^ (64 - s)`. -/
theorem decU64Aux_enc_at (n : Nat) : ∀ (s acc fuel : Nat) (rest : Bytes),
    s ≤ 63 → n < 2 ^ (64 - s) → 70 ≤ s + 7 * fuel →
    Leb.decU64Aux (Leb.enc n ++ rest) s acc fuel = some (acc + n * 2 ^ s, rest) := by
  induction n using Leb.enc.induct with
  | case1 n hlt =>
    intro s acc fuel rest hs hn hf
    obtain ⟨fuel, rfl, -⟩ := fuel_succ hs hf
    have h63 : ¬ (s = 63 ∧ n ≠ 0 ∧ n ≠ 1) := fun ⟨hs63, h0, h1⟩ =>
      (Nat.le_one_iff_eq_zero_or_eq_one.1 (Nat.le_of_lt_succ (by subst hs63; exact hn))).elim h0 h1
    rw [Leb.enc, dif_pos hlt]
    simp only [List.cons_append, List.nil_append, Leb.decU64Aux,
      UInt8.toNat_ofNat_of_lt' (Nat.lt_trans hlt (by decide)), hlt, if_true, Nat.mod_eq_of_lt hlt, if_neg h63]
  | case2 n hge ih =>
    intro s acc fuel rest hs hn hf
    obtain ⟨fuel, rfl, hf'⟩ := fuel_succ hs hf
    obtain ⟨hs', hdiv⟩ := shift_room hge hn
    have h63 : ¬ (s = 63 ∧ n % 128 + 128 ≠ 0 ∧ n % 128 + 128 ≠ 1) := fun h => absurd (h.1 ▸ hs') (by decide)
    rw [Leb.enc, dif_neg hge]
    simp only [List.cons_append, Leb.decU64Aux, UInt8.toNat_ofNat_of_lt' (Leb.continuation_lt n)]
    rw [if_neg h63, if_neg (Nat.not_lt.2 (Nat.le_add_left _ _)), Nat.add_mod_right, Nat.mod_mod,
      ih (s + 7) _ fuel rest hs' hdiv hf', shift_step]

theorem decU64Aux_enc (n : Nat) : ∀ (k : Nat) (acc fuel : Nat) (rest : Bytes),
    7 * k ≤ 63 → n < 2 ^ (64 - 7 * k) → 10 - k ≤ fuel →
    Leb.decU64Aux (Leb.enc n ++ rest) (7 * k) acc fuel = some (acc + n * 2 ^ (7 * k), rest) :=
  fun k acc fuel rest hk hn hf => decU64Aux_enc_at n (7 * k) acc fuel rest hk hn
    (Nat.mul_add 7 k fuel ▸ Nat.mul_le_mul_left 7 (Nat.sub_le_iff_le_add'.1 hf))

theorem leb_wleb (n : Nat) (h : n < 2 ^ 64) (rest : Bytes) : leb (wleb n ++ rest) = some (n, rest) := by
  have := decU64Aux_enc_at n 0 0 10 rest (by decide) h (by decide)
  rwa [Nat.pow_zero, Nat.mul_one, Nat.zero_add] at this

theorem takeN_append {b rest : Bytes} {k : Nat} (h : b.length = k) : takeN k (b ++ rest) = some (b, rest) := by
  subst h
  have : ¬ (b ++ rest).length < b.length := by
    rw [List.length_append]; exact Nat.not_lt.2 (Nat.le_add_right _ _)
  simp only [takeN, this, if_false, List.take_left', List.drop_left']

theorem vec_wvec {b : Bytes} (h : b.length < 2 ^ 64) (rest : Bytes) : vec (wvec b ++ rest) = some (b, rest) := by
  unfold vec wvec
  rw [List.append_assoc, leb_wleb _ h]
  exact takeN_append rfl

theorem many_flatMap {α : Type} {d : Dec α} {e : α → Bytes} {l : List α}
    (h : ∀ x ∈ l, ∀ r, d (e x ++ r) = some (x, r)) (rest : Bytes) :
    many l.length d (l.flatMap e ++ rest) = some (l, rest) := by
  induction l with
  | nil => rfl
  | cons x xs ih =>
    simp only [List.length_cons, many, List.flatMap_cons, List.append_assoc, h x List.mem_cons_self,
      ih fun y hy => h y (List.mem_cons_of_mem _ hy)]

theorem many_flatten (k : Nat) (l : List Bytes) (rest : Bytes) (h : ∀ x ∈ l, x.length = k) :
    many l.length (takeN k) (l.flatten ++ rest) = some (l, rest) :=
  List.flatMap_id ▸ many_flatMap (e := id) (fun x hx _ => takeN_append (h x hx)) rest

/-- stated with the appends nested to the right, as `simp only [List.append_assoc]` leaves an encoder's
output: the record round trips rewrite with it after that one normalisation -/
theorem counted_flatMap {α : Type} {d : Dec α} {e : α → Bytes} {l : List α} {W : α → Prop} (ne : Bool)
    (hlen : l.length < 2 ^ 64) (hne : ne = true → l ≠ []) (hwf : ∀ x ∈ l, W x)
    (h : ∀ x, W x → ∀ r, d (e x ++ r) = some (x, r)) (rest : Bytes) :
    counted d ne (wleb l.length ++ (l.flatMap e ++ rest)) = some (l, rest) := by
  have hn : (ne && l.length == 0) = false := by
    cases ne with
    | false => rfl
    | true => rw [Bool.true_and, beq_eq_false_iff_ne, Ne, List.length_eq_zero_iff]; exact hne rfl
  rw [counted, leb_wleb _ hlen]
  simp only [hn]
  exact many_flatMap (fun x hx => h x (hwf x hx)) rest

theorem counted_flatten {d : Dec Bytes} {l : List Bytes} {W : Bytes → Prop} (ne : Bool)
    (hlen : l.length < 2 ^ 64) (hne : ne = true → l ≠ []) (hwf : ∀ x ∈ l, W x)
    (h : ∀ x, W x → ∀ r, d (x ++ r) = some (x, r)) (rest : Bytes) :
    counted d ne (wleb l.length ++ (l.flatten ++ rest)) = some (l, rest) :=
  List.flatMap_id ▸ counted_flatMap (e := id) ne hlen hne hwf h rest

theorem leb_flag (b : Bool) (rest : Bytes) :
    leb (wleb (if b then 1 else 0) ++ rest) = some (if b then 1 else 0, rest) :=
  leb_wleb _ (by split <;> decide) rest

theorem deserialize_of_inv {α : Type} {d : Dec α} {bs : Bytes} {a : α} (h : d bs = some (a, []))
    (hne : bs ≠ []) : deserialize d bs = some a := by
  rw [deserialize, h, if_neg (mt List.isEmpty_iff.1 hne)]

end CC.Wire
