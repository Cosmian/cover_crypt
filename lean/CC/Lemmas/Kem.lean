import CC.Lemmas.Rev
import CC.Lemmas.Frame
import CC.Lemmas.Sym
/-! From rights to decapsulation: what the public key publishes, and the KEM layer (`keygen_encaps_decaps`). -/
namespace CC

/-- distinct rights, and no secret (token) serves two rights -/
structure Msk.Distinct (msk : Msk) : Prop where
  rights : (msk.secrets.map (·.1)).Nodup
  tokens : ∀ r1 c1 r2 c2 (s1 s2 : Bool × Sk), (r1, c1) ∈ msk.secrets → (r2, c2) ∈ msk.secrets →
    s1 ∈ c1 → s2 ∈ c2 → s1.2.tok = s2.2.tok → r1 = r2

theorem mpkEntry_eq_some {p : Right × List (Bool × Sk)} {q : Right × Sk} :
    mpkEntry p = some q ↔ q.1 = p.1 ∧ p.2.head? = some (true, q.2) := by
  unfold mpkEntry
  split
  · rename_i sk hh
    exact ⟨fun h => by cases h; exact ⟨rfl, hh⟩, fun ⟨h1, h2⟩ => by
      cases hh.symm.trans h2; rw [← h1]⟩
  · rename_i hh
    exact ⟨fun h => (nomatch h), fun ⟨_, h2⟩ => absurd h2 (hh q.2)⟩

theorem mem_mpk_keys {msk : Msk} {r : Right} {pk : Sk} :
    (r, pk) ∈ msk.mpk.keys ↔ ∃ ch, (r, ch) ∈ msk.secrets ∧ ch.head? = some (true, pk) := by
  show (r, pk) ∈ msk.secrets.filterMap mpkEntry ↔ _
  rw [List.mem_filterMap]
  constructor
  · rintro ⟨⟨r', ch⟩, hm, h⟩
    obtain ⟨h1, h2⟩ := mpkEntry_eq_some.1 h
    obtain rfl : r = r' := h1
    exact ⟨ch, hm, h2⟩
  · rintro ⟨ch, hm, hh⟩
    exact ⟨(r, ch), hm, mpkEntry_eq_some.2 ⟨rfl, hh⟩⟩

theorem mpk_keys_sublist : ∀ (secrets : RevMap), ((secrets.filterMap mpkEntry).map (·.1)).Sublist (secrets.map (·.1))
  | [] => .slnil
  | p :: ps => by
    rw [List.filterMap_cons]
    split
    · exact (mpk_keys_sublist ps).cons _
    · rename_i v hp
      rw [List.map_cons, (mpkEntry_eq_some.1 hp).1]
      exact (mpk_keys_sublist ps).cons_cons _

theorem mpk_lookup (msk : Msk) (hd : (msk.secrets.map (·.1)).Nodup) (r : Right) (t : Sk) :
    msk.mpk.keys.lookup r = some t ↔ msk.secrets.getLatest r = some (true, t) := by
  have hnd : (msk.mpk.keys.map (·.1)).Nodup := hd.sublist (mpk_keys_sublist msk.secrets)
  rw [lookup_eq_some_iff_mem hnd, mem_mpk_keys]
  unfold RevMap.getLatest
  rw [Option.bind_eq_some_iff]
  exact ⟨fun ⟨ch, hm, hh⟩ => ⟨ch, (lookup_eq_some_iff_mem hd).2 hm, hh⟩,
    fun ⟨ch, hl, hh⟩ => ⟨ch, lookup_mem hl, hh⟩⟩

theorem mpk_keyOf (msk : Msk) (hd : (msk.secrets.map (·.1)).Nodup) (r : Right) (t : Sk) :
    msk.mpk.keyOf r = .ok t ↔ msk.secrets.getLatest r = some (true, t) := by
  rw [← mpk_lookup msk hd]
  unfold Mpk.keyOf
  cases msk.mpk.keys.lookup r with
  | none => exact ⟨fun h => (nomatch h), fun h => (nomatch h)⟩
  | some k => exact ⟨fun h => by cases h; rfl, fun h => by cases h; rfl⟩

/-- tokens name rights: a secret of the right `r` opens a component made for the published key of
`r'` only if `r = r'` -/
theorem Msk.Distinct.right_of_opens {msk : Msk} (hd : msk.Distinct) {r r' : Right} {mc : List (Bool × Sk)}
    {v : Bool × Sk} {t : Sk} {hybrid : Bool} (hm : (r, mc) ∈ msk.secrets) (hv : v ∈ mc)
    (hkey : msk.mpk.keyOf r' = .ok t) (ho : opens hybrid v.2 t = true) : r = r' := by
  obtain ⟨mc', hm', hv'⟩ := getLatest_mem ((mpk_keyOf msk hd.rights r' t).1 hkey)
  exact hd.tokens r mc r' mc' v (true, t) hm hm' hv hv' (opens_tok ho)

theorem opens_self {x : XEnc} (hflav : x.hybrid = x.targets.all (·.hyb)) {t : Sk} (ht : t ∈ x.targets) :
    opens x.hybrid t t = true := by
  unfold opens
  rw [beq_self_eq_true, Bool.and_self]
  cases hh : x.hybrid with
  | false => rfl
  | true => exact List.all_eq_true.1 (hflav ▸ hh) t ht

/-- **The KEM layer.** For a master key whose secrets are distinct across rights: the key generated for the
rights `ru` opens the encapsulation made for the rights `re` — returning exactly the encapsulated secret —
iff `ru` and `re` share a right; otherwise it gets nothing. Classic and hybridized rights alike. -/
theorem keygen_encaps_decaps (msk : Msk) (hd : msk.Distinct) (ru re : List Right) (n n' : Rng)
    (usk : Usk) (s : Nat) (x : XEnc)
    (hk : (uskKeygen msk ru n).1 = .ok usk) (he : (encaps msk.mpk re n').1 = .ok (s, x)) :
    (decaps usk x = some s ↔ ∃ r, r ∈ re ∧ r ∈ ru) ∧ (decaps usk x = none ↔ ¬ ∃ r, r ∈ re ∧ r ∈ ru) := by
  obtain ⟨chains, hchains, -, rfl, -⟩ := uskKeygen_ok_spec hk
  obtain ⟨hks, hhyb, hxauth, hxnt, hseed, rfl⟩ := encaps_ok_spec he
  have hcmem := latestRightSks_mem msk ru chains hchains
  have key : CanOpen ⟨msk.freshId n, msk.auth, msk.ntracers, chains, sign msk (msk.freshId n) chains⟩ x ↔
      ∃ r, r ∈ re ∧ r ∈ ru := by
    refine (and_iff_right hxauth.symm).trans ((and_iff_right hxnt.symm).trans ((and_iff_right
      (show (msk.freshId n).length = x.ntraps by rw [hxnt, msk.length_freshId]; rfl)).trans ?_))
    constructor
    · -- the secret that opens is the newest of its right and so is the target: tokens name rights
      rintro ⟨r, c, sk, t, hm, hs, ht, ho⟩
      obtain ⟨hru, act, sk', hl, rfl⟩ := (hcmem r c).1 hm
      cases List.mem_singleton.1 hs
      obtain ⟨r', hre, hkey⟩ := (mapMExcept_mem hks).1 ht
      obtain ⟨c1, hm1, hin1⟩ := getLatest_mem hl
      cases hd.right_of_opens (v := (act, sk)) hm1 hin1 hkey ho
      exact ⟨r, hre, hru⟩
    · -- the key of `r` in the public key is the newest secret, which is what the user key holds
      rintro ⟨r, hre, hru⟩
      obtain ⟨t, ht, hkey⟩ := mapMExcept_of_mem hks hre
      exact ⟨r, [t], t, t, (hcmem r [t]).2 ⟨hru, true, t, (mpk_keyOf msk hd.rights r t).1 hkey, rfl⟩,
        List.mem_cons_self, ht, opens_self hhyb ht⟩
  exact ⟨by rw [decaps_eq_some_iff, key]; exact ⟨fun h => h.2, fun h => ⟨hseed.symm, h⟩⟩,
    by rw [decaps_eq_none_iff, key]⟩

end CC
