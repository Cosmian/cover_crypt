import CC.Model.Structure
import CC.Lemmas.Assoc
/-! Lemmas about the definitions of `Model/Structure.lean`, and the edits. In this order: the normal form of
`mapMExcept`; the list operations `aerase` / `areplace` / `insertAbove`; what each attribute operation of a
dimension returns and what it preserves (`Dim.Step`); the attributes of a structure (`Struct.all`) and its
well-formedness (`Struct.WF`, `Struct.IdsBelow`); the edits as data (`Edit`, `Struct.apply`, `Struct.run`:
part of the model, `World.step` runs them) and the one shape every accepted edit has (`Struct.apply_cases`),
from which: identifiers are permanent and never reissued, and well-formedness is preserved. -/
namespace CC

theorem mapMExcept_congr {α β ε : Type} {f g : α → Except ε β} {l : List α} (h : ∀ x ∈ l, f x = g x) :
    mapMExcept f l = mapMExcept g l := by
  induction l with
  | nil => rfl
  | cons a as ih =>
    rw [mapMExcept, mapMExcept, h a List.mem_cons_self, ih fun x hx => h x (List.mem_cons_of_mem _ hx)]

section
variable {α β γ ε : Type} {f : α → Except ε β} {l : List α} {bs : List β}

theorem mapMExcept_eq_ok : mapMExcept f l = .ok bs ↔ l.map f = bs.map .ok := by
  induction l generalizing bs with
  | nil => cases bs <;> simp [mapMExcept]
  | cons a as ih =>
    rw [mapMExcept]
    cases bs with
    | nil => cases f a <;> cases mapMExcept f as <;> simp
    | cons b bs =>
      simp only [List.map_cons, List.cons.injEq, ← ih]
      cases f a <;> cases mapMExcept f as <;> simp

theorem mapMExcept_of_mem (h : mapMExcept f l = .ok bs) {x : α} (hx : x ∈ l) : ∃ b ∈ bs, f x = .ok b := by
  obtain ⟨b, hb, e⟩ := List.mem_map.1 (mapMExcept_eq_ok.1 h ▸ List.mem_map_of_mem (f := f) hx)
  exact ⟨b, hb, e.symm⟩

theorem mapMExcept_mem (h : mapMExcept f l = .ok bs) {b : β} : b ∈ bs ↔ ∃ x ∈ l, f x = .ok b := by
  rw [← List.mem_map, mapMExcept_eq_ok.1 h, List.mem_map]
  exact ⟨fun hb => ⟨b, hb, rfl⟩, fun ⟨_, hb, e⟩ => Except.ok.inj e ▸ hb⟩

theorem mapMExcept_ok (h : ∀ x ∈ l, ∃ y, f x = .ok y) : ∃ bs, mapMExcept f l = .ok bs := by
  induction l with
  | nil => exact ⟨[], rfl⟩
  | cons a as ih =>
    obtain ⟨y, hy⟩ := h a List.mem_cons_self
    obtain ⟨bs, hbs⟩ := ih fun x hx => h x (List.mem_cons_of_mem _ hx)
    exact ⟨y :: bs, by rw [mapMExcept, hy, hbs]⟩

end

section
variable {β γ : Type} {l : List (String × β)} {k k' : String} {v w : β} {p : String × β}

theorem mem_aerase : p ∈ aerase l k ↔ p ∈ l ∧ p.1 ≠ k := by
  simp only [aerase, List.mem_filter, bne_iff_ne]

theorem aerase_sublist : (aerase l k).Sublist l := List.filter_sublist

theorem lookup_aerase : (aerase l k).lookup k' = if k' = k then none else l.lookup k' := by
  rw [aerase, lookup_filter_key (· != k)]
  by_cases h : k' = k <;> simp [h]

theorem aerase_of_lookup_none (h : l.lookup k = none) : aerase l k = l :=
  List.filter_eq_self.2 fun p hp => bne_iff_ne.2 fun e =>
    lookup_eq_none_iff_keys.1 h (List.mem_map.2 ⟨p, hp, e⟩)

theorem perm_cons_aerase (hnd : (l.map (·.1)).Nodup) (h : l.lookup k = some w) :
    l.Perm ((k, w) :: aerase l k) := by
  obtain ⟨l₁, l₂, rfl, -⟩ := List.lookup_eq_some_iff.1 h
  rw [List.map_append, List.nodup_append] at hnd
  rw [aerase, List.filter_append, List.filter_cons_of_neg (by simp), ← aerase, ← aerase,
    aerase_of_lookup_none (lookup_eq_none_iff_keys.2 fun hm => hnd.2.2 _ hm _ List.mem_cons_self rfl),
    aerase_of_lookup_none (lookup_eq_none_iff_keys.2 (List.nodup_cons.1 hnd.2.1).1)]
  exact List.perm_middle

theorem keys_areplace : (areplace l k v).map (·.1) = l.map (·.1) := keys_map_of_fst replace_fst

theorem lookup_areplace :
    (areplace l k v).lookup k' = if k' = k then (l.lookup k).map (fun _ => v) else l.lookup k' := by
  rw [areplace, lookup_map_replace]
  simp only [beq_iff_eq]

theorem lookup_areplace_other (h : k' ≠ k) : (areplace l k v).lookup k' = l.lookup k' := by
  rw [lookup_areplace, if_neg h]

theorem lookup_areplace_self (h : l.lookup k = some w) : (areplace l k v).lookup k = some v := by
  rw [lookup_areplace, if_pos rfl, h]; rfl

theorem mem_areplace : p ∈ areplace l k v ↔ (p ∈ l ∧ p.1 ≠ k) ∨ (p = (k, v) ∧ k ∈ l.map (·.1)) :=
  mem_map_replace

theorem map_areplace (f : String × β → γ) (hnd : (l.map (·.1)).Nodup) (h : l.lookup k = some w)
    (hf : f (k, v) = f (k, w)) : (areplace l k v).map f = l.map f := by
  rw [areplace, List.map_map]
  refine List.map_congr_left fun q hq => ?_
  by_cases e : q.1 = k
  · have : l.lookup k = some q.2 := (lookup_eq_some_iff_mem hnd).2 (e ▸ hq)
    rw [h] at this
    rw [Function.comp, if_pos (beq_iff_eq.2 e), hf, Option.some.inj this, ← e]
  · rw [Function.comp, if_neg (mt beq_iff_eq.1 e)]

variable {i : Nat}

theorem aerase_eq_eraseIdx (hnd : (l.map (·.1)).Nodup) (hi : l[i]? = some (k, w)) :
    aerase l k = l.eraseIdx i := by
  obtain ⟨hlt, hget⟩ := List.getElem?_eq_some_iff.mp hi
  unfold aerase
  conv => lhs; rw [← List.take_append_drop i l, ← List.getElem_cons_drop hlt, hget]
  rw [List.filter_append, List.filter_cons_of_neg (by simp), ← List.filter_append,
    ← List.eraseIdx_eq_take_drop_succ]
  apply List.filter_eq_self.mpr
  intro p hp
  obtain ⟨j, hji, hj⟩ := List.mem_eraseIdx_iff_getElem?.mp hp
  exact bne_iff_ne.2 (key_ne_of_getElem? hnd hi hj hji)

end

theorem mem_insertAbove {attrs : List (String × Attr)} {name after : String} {a : Attr} {q : String × Attr}
    (h : q ∈ Dim.insertAbove attrs name a after) : q ∈ attrs ∨ q = (name, a) := by
  unfold Dim.insertAbove at h
  simp only [List.mem_append, List.mem_singleton, List.mem_reverse] at h
  rcases h with (h | h) | h
  · exact Or.inl ((List.takeWhile_sublist _).subset h)
  · exact Or.inr h
  · exact Or.inl (List.mem_reverse.1 ((List.takeWhile_sublist _).subset h))

theorem takeWhile_ne_head {α : Type} [BEq α] [LawfulBEq α] (pre suf : List α)
    (h : ∀ q ∈ pre, some q ≠ suf.head?) :
    (pre ++ suf).takeWhile (fun q => some q != suf.head?) = pre := by
  rw [List.takeWhile_append_of_pos fun q hq => bne_iff_ne.2 (h q hq)]
  cases suf with
  | nil => rw [List.takeWhile_nil, List.append_nil]
  | cons y ys => rw [List.takeWhile_cons_of_neg (by simp), List.append_nil]

/-- the new attribute lands between the lower and the higher ones: up to the order, it is added -/
theorem insertAbove_perm (attrs : List (String × Attr)) (name after : String) (a : Attr)
    (hnd : (attrs.map (·.1)).Nodup) : (Dim.insertAbove attrs name a after).Perm ((name, a) :: attrs) := by
  -- `suf`: the higher attributes, as the Rust code collects them; its first entry does not occur below, names being distinct
  obtain ⟨pre, suf, rfl, hsuf⟩ : ∃ pre suf, attrs = pre ++ suf ∧
      (attrs.reverse.takeWhile fun q => q.1 != after) = suf.reverse :=
    ⟨_, _, by rw [← List.reverse_append, List.takeWhile_append_dropWhile, List.reverse_reverse],
      (List.reverse_reverse _).symm⟩
  rw [List.map_append, List.nodup_append] at hnd
  simp only [Dim.insertAbove, hsuf, List.getLast?_reverse, List.reverse_reverse]
  rw [takeWhile_ne_head pre suf fun q hq e =>
    hnd.2.2 _ (List.mem_map_of_mem hq) _ (List.mem_map_of_mem (List.mem_of_mem_head? e.symm)) rfl,
    List.append_assoc]
  exact List.perm_middle

theorem nodup_insertAbove {attrs : List (String × Attr)} {name : String} (after : String) (a : Attr)
    (hnd : (attrs.map (·.1)).Nodup) (hnew : attrs.lookup name = none) :
    ((Dim.insertAbove attrs name a after).map (·.1)).Nodup :=
  ((insertAbove_perm attrs name after a hnd).map _).nodup_iff.2
    (List.nodup_cons.2 ⟨lookup_eq_none_iff_keys.1 hnew, hnd⟩)

theorem Dim.removeAttribute_ok {d d' : Dim} {n : String} :
    d.removeAttribute n = .ok d' ↔
      (d.attrs.lookup n).isSome = true ∧ d' = { d with attrs := aerase d.attrs n } := by
  unfold Dim.removeAttribute
  split <;> simp [*, eq_comm (b := d')]

theorem Dim.disableAttribute_ok {d d' : Dim} {n : String} :
    d.disableAttribute n = .ok d' ↔
      ∃ a, d.attrs.lookup n = some a ∧ d' = { d with attrs := areplace d.attrs n { a with ro := true } } := by
  unfold Dim.disableAttribute
  split <;> simp [*, eq_comm (b := d')]

theorem Dim.renameAttribute_ok {d d' : Dim} {o n : String} :
    d.renameAttribute o n = .ok d' ↔ ∃ a, d.attrs.lookup o = some a ∧ d.attrs.lookup n = none ∧
      d' = { d with attrs := if d.ordered then d.attrs.map (fun p => if p.1 == o then (n, p.2) else p)
                             else aerase d.attrs o ++ [(n, a)] } := by
  unfold Dim.renameAttribute
  cases d.attrs.lookup o <;> cases d.attrs.lookup n <;> cases d.ordered <;> simp [eq_comm (b := d')]

/-- an accepted `add_attribute` (in a hierarchy `""` stands for "no `after`", as in the Rust code) -/
theorem Dim.addAttribute_spec {d d' : Dim} {n : String} {hyb : Bool} {af : Option String} {id : Nat}
    (h : d.addAttribute n hyb af id = .ok d') : d.attrs.lookup n = none ∧
      d' = { d with attrs := if d.ordered then Dim.insertAbove d.attrs n ⟨id, hyb, false⟩ (af.getD "")
                             else d.attrs ++ [(n, ⟨id, hyb, false⟩)] } := by
  unfold Dim.addAttribute at h
  cases hn : d.attrs.lookup n with
  | some _ => rw [hn] at h; cases ho : d.ordered <;> rw [ho] at h <;> cases h
  | none =>
    refine ⟨rfl, ?_⟩
    rw [hn] at h
    cases ho : d.ordered <;> rw [ho] at h
    · cases h; rfl
    · cases af with
      | none => cases h; rfl
      | some x =>
        dsimp only at h
        cases hx : d.attrs.lookup x <;> rw [hx] at h <;> cases h
        rfl

/-- the new name of `x` inside the renamed dimension -/
def renName (o n x : String) : String := if x = o then n else x

theorem renName_inj {o n x y : String} (hx : x ≠ n) (hy : y ≠ n) :
    renName o n x = renName o n y ↔ x = y := by
  refine ⟨fun e => ?_, fun e => e ▸ rfl⟩
  unfold renName at e
  split at e <;> split at e
  · rw [‹x = o›, ‹y = o›]
  · exact absurd e.symm hy
  · exact absurd e hx
  · exact e

theorem map_rename_eq {β : Type} (l : List (String × β)) (o n : String) :
    l.map (fun p => if p.1 == o then (n, p.2) else p) = l.map fun p => (renName o n p.1, p.2) :=
  List.map_congr_left fun p _ => by
    by_cases e : p.1 = o <;> simp only [renName, e, beq_iff_eq, ↓reduceIte]

/-- in an anarchy only up to the order, which carries no meaning there -/
theorem Dim.renameAttribute_perm {d d' : Dim} {o n : String} (hnd : (d.attrs.map (·.1)).Nodup)
    (h : d.renameAttribute o n = .ok d') :
    d'.attrs.Perm (d.attrs.map fun p => (renName o n p.1, p.2)) ∧ n ∉ d.attrs.map (·.1) := by
  obtain ⟨a, hlo, hln, rfl⟩ := Dim.renameAttribute_ok.1 h
  refine ⟨?_, lookup_eq_none_iff_keys.1 hln⟩
  cases d.ordered
  · -- `(o, a)` is taken out and `(n, a)` put at the end; the other names are not `o`
    have := ((perm_cons_aerase hnd hlo).map fun p => (renName o n p.1, p.2)).symm
    rw [List.map_cons, List.map_congr_left (g := id) fun p hp => by rw [renName, if_neg (mem_aerase.1 hp).2]; rfl,
      List.map_id] at this
    simpa only [renName, Bool.false_eq_true, ↓reduceIte] using List.perm_append_singleton _ _ |>.trans this
  · exact List.Perm.of_eq (map_rename_eq d.attrs o n)

theorem Dim.addAttribute_perm {d d' : Dim} {n : String} {hyb : Bool} {af : Option String} {i : Nat}
    (hnd : (d.attrs.map (·.1)).Nodup) (h : d.addAttribute n hyb af i = .ok d') :
    d'.attrs.Perm ((n, ⟨i, hyb, false⟩) :: d.attrs) ∧ n ∉ d.attrs.map (·.1) := by
  obtain ⟨hl, rfl⟩ := Dim.addAttribute_spec h
  refine ⟨?_, lookup_eq_none_iff_keys.1 hl⟩
  cases d.ordered
  · exact List.perm_append_singleton _ _
  · exact insertAbove_perm d.attrs n (af.getD "") ⟨i, hyb, false⟩ hnd

/-- what an accepted attribute operation does to its dimension, the counter going from `lo` to `hi` -/
structure Dim.Step (lo hi : Nat) (d d' : Dim) : Prop where
  back : ∀ q' ∈ d'.attrs, (∃ q ∈ d.attrs, q.2.id = q'.2.id ∧ q.2.hyb = q'.2.hyb ∧
    (q.2.ro = true → q'.2.ro = true)) ∨ (lo ≤ q'.2.id ∧ q'.2.id < hi)
  names : (d.attrs.map (·.1)).Nodup → (d'.attrs.map (·.1)).Nodup
  ids : (d.attrs.map (·.1)).Nodup → (∀ q ∈ d.attrs, q.2.id < lo) → (d.attrs.map (·.2.id)).Nodup →
    (d'.attrs.map (·.2.id)).Nodup

theorem Dim.removeAttribute_step {d d' : Dim} {n : String} (lo hi : Nat) (h : d.removeAttribute n = .ok d') :
    Dim.Step lo hi d d' := by
  obtain ⟨_, rfl⟩ := Dim.removeAttribute_ok.1 h
  exact ⟨fun q hq => .inl ⟨q, (mem_aerase.1 hq).1, rfl, rfl, id⟩,
    fun h => h.sublist (aerase_sublist.map _),
    fun _ _ h => h.sublist (aerase_sublist.map _)⟩

theorem Dim.disableAttribute_step {d d' : Dim} {n : String} (lo hi : Nat) (h : d.disableAttribute n = .ok d') :
    Dim.Step lo hi d d' := by
  obtain ⟨a, hl, rfl⟩ := Dim.disableAttribute_ok.1 h
  refine ⟨fun q hq => .inl ?_, fun h => (keys_areplace (l := d.attrs)).symm ▸ h,
    fun hnd _ h => (map_areplace (v := { a with ro := true }) (·.2.id) hnd hl rfl).symm ▸ h⟩
  rcases mem_areplace.1 hq with ⟨hq, _⟩ | ⟨rfl, _⟩
  · exact ⟨q, hq, rfl, rfl, id⟩
  · exact ⟨(n, a), lookup_mem hl, rfl, rfl, fun _ => rfl⟩

theorem Dim.renameAttribute_step {d d' : Dim} {o n : String} (lo hi : Nat) (h : d.renameAttribute o n = .ok d') :
    Dim.Step lo hi d d' := by
  refine ⟨fun q hq => .inl ?_, fun hnd => ?_, fun hnd _ hi => ?_⟩
  · obtain ⟨a, hlo, -, rfl⟩ := Dim.renameAttribute_ok.1 h
    cases ho : d.ordered <;> simp only [ho] at hq
    · rcases List.mem_append.1 hq with hq | hq
      · exact ⟨q, (mem_aerase.1 hq).1, rfl, rfl, id⟩
      · cases List.mem_singleton.1 hq; exact ⟨_, lookup_mem hlo, rfl, rfl, id⟩
    · obtain ⟨p, hp, rfl⟩ := List.mem_map.1 hq
      exact ⟨p, hp, by split <;> exact ⟨rfl, rfl, id⟩⟩
  · obtain ⟨hp, hn⟩ := Dim.renameAttribute_perm hnd h
    rw [(hp.map _).nodup_iff, List.map_map,
      show ((·.1) ∘ fun p : String × Attr => (renName o n p.1, p.2)) = renName o n ∘ (·.1) from rfl,
      ← List.map_map, nodup_map_iff hnd]
    exact fun x hx y hy => (renName_inj (fun e : x = n => hn (e ▸ hx)) fun e : y = n => hn (e ▸ hy)).1
  · rw [((Dim.renameAttribute_perm hnd h).1.map _).nodup_iff, List.map_map]
    exact hi

theorem Dim.addAttribute_step {d d' : Dim} {n : String} {hyb : Bool} {af : Option String} {i : Nat}
    (h : d.addAttribute n hyb af i = .ok d') : Dim.Step i (i + 1) d d' := by
  refine ⟨fun q hq => ?_, fun hnd => ?_, fun hnd hlt hi => ?_⟩
  · obtain ⟨-, rfl⟩ := Dim.addAttribute_spec h
    have : q ∈ d.attrs ∨ q = (n, ⟨i, hyb, false⟩) := by
      cases ho : d.ordered <;> simp only [ho] at hq
      · exact (List.mem_append.1 hq).imp_right List.mem_singleton.1
      · exact mem_insertAbove hq
    rcases this with hq | rfl
    · exact .inl ⟨q, hq, rfl, rfl, id⟩
    · exact .inr ⟨Nat.le_refl _, Nat.lt_succ_self _⟩
  · obtain ⟨hp, hn⟩ := Dim.addAttribute_perm hnd h
    rw [(hp.map _).nodup_iff]
    exact List.nodup_cons.2 ⟨hn, hnd⟩
  · rw [((Dim.addAttribute_perm hnd h).1.map _).nodup_iff]
    refine List.nodup_cons.2 ⟨fun hm => ?_, hi⟩
    obtain ⟨q, hq, e⟩ := List.mem_map.1 hm
    exact Nat.lt_irrefl i ((show q.2.id = i from e) ▸ hlt q hq)

def Struct.all (S : Struct) : List (String × String × Attr) :=
  S.dims.flatMap fun p => p.2.attrs.map fun q => (p.1, q.1, q.2)

theorem mem_all_iff {S : Struct} {t : String × String × Attr} :
    t ∈ S.all ↔ ∃ d, (t.1, d) ∈ S.dims ∧ (t.2.1, t.2.2) ∈ d.attrs := by
  simp only [Struct.all, List.mem_flatMap, List.mem_map]
  constructor
  · rintro ⟨p, hp, q, hq, rfl⟩; exact ⟨p.2, hp, hq⟩
  · rintro ⟨d, hd, hq⟩; exact ⟨(t.1, d), hd, (t.2.1, t.2.2), hq, rfl⟩

theorem mem_all {S : Struct} {dn : String} {d : Dim} {n : String} {a : Attr}
    (hd : (dn, d) ∈ S.dims) (ha : (n, a) ∈ d.attrs) : (dn, n, a) ∈ S.all :=
  mem_all_iff.2 ⟨d, hd, ha⟩

theorem mem_all_areplace {S S' : Struct} {dn : String} {d' : Dim} (h : S'.dims = areplace S.dims dn d')
    {t : String × String × Attr} (ht : t ∈ S'.all) :
    (t ∈ S.all ∧ t.1 ≠ dn) ∨ (t.1 = dn ∧ (t.2.1, t.2.2) ∈ d'.attrs) := by
  obtain ⟨d, hd, hq⟩ := mem_all_iff.1 ht
  rw [h] at hd
  rcases mem_areplace.1 hd with ⟨hd, hne⟩ | ⟨e, _⟩
  · exact .inl ⟨mem_all_iff.2 ⟨d, hd, hq⟩, hne⟩
  · obtain ⟨e1, rfl⟩ := Prod.mk.inj e
    exact .inr ⟨e1, hq⟩

theorem all_subset {S S' : Struct} (h : ∀ p ∈ S'.dims, p ∈ S.dims ∨ p.2.attrs = []) :
    ∀ t ∈ S'.all, t ∈ S.all := by
  intro t ht
  obtain ⟨d, hd, hq⟩ := mem_all_iff.1 ht
  rcases h _ hd with hd | hd
  · exact mem_all_iff.2 ⟨d, hd, hq⟩
  · rw [show d.attrs = [] from hd] at hq; cases hq

/-- dimension names, attribute names per dimension and identifiers are unique -/
structure Struct.WF (S : Struct) : Prop where
  dims : (S.dims.map (·.1)).Nodup
  names : ∀ p ∈ S.dims, (p.2.attrs.map (·.1)).Nodup
  ids : ∀ t1 ∈ S.all, ∀ t2 ∈ S.all, t1.2.2.id = t2.2.2.id → t1 = t2

def Struct.IdsBelow (s : Struct) : Prop := ∀ p ∈ s.dims, ∀ q ∈ p.2.attrs, q.2.id < s.nextId

theorem all_ids_below {S : Struct} (hb : S.IdsBelow) : ∀ t ∈ S.all, t.2.2.id < S.nextId := by
  intro t ht
  obtain ⟨d, hd, hq⟩ := mem_all_iff.1 ht
  exact hb _ hd _ hq

/-- the edit operations of the API (`add_anarchy` and `add_hierarchy` are `addDim` with a flag) -/
inductive Edit where
  | addDim (name : String) (ordered : Bool)
  | delDim (name : String)
  | addAttr (dim name : String) (hyb : Bool) (after : Option String)
  | delAttr (dim name : String)
  | rename (dim old new : String)
  | disable (dim name : String)
deriving Repr

def Edit.dim : Edit → String
  | .addDim n _ => n
  | .delDim n => n
  | .addAttr d _ _ _ => d
  | .delAttr d _ => d
  | .rename d _ _ => d
  | .disable d _ => d

def Struct.apply (s : Struct) : Edit → Except Err Struct
  | .addDim n o => s.addDimension n o
  | .delDim n => s.delDimension n
  | .addAttr d n h a => s.addAttribute d n h a
  | .delAttr d n => s.delAttribute d n
  | .rename d o n => s.renameAttribute d o n
  | .disable d n => s.disableAttribute d n

/-- run a list of edits; a failing edit changes nothing -/
def Struct.run (s : Struct) (es : List Edit) : Struct :=
  es.foldl (fun s e => match s.apply e with | .ok s' => s' | .error _ => s) s

theorem Struct.onDim_spec {s s' : Struct} {dim : String} {f : Dim → Except Err Dim}
    (h : s.onDim dim f = .ok s') : ∃ d d', s.dims.lookup dim = some d ∧ f d = .ok d' ∧
      s' = { s with dims := areplace s.dims dim d' } := by
  unfold Struct.onDim at h
  split at h
  · cases h
  · split at h <;> cases h
    exact ⟨_, _, ‹_›, ‹_›, rfl⟩

theorem Struct.addAttribute_spec {s s' : Struct} {dim name : String} {hyb : Bool} {after : Option String}
    (h : s.addAttribute dim name hyb after = .ok s') : ∃ d d', s.dims.lookup dim = some d ∧
      d.addAttribute name hyb after s.nextId = .ok d' ∧
      s' = { nextId := s.nextId + 1, dims := areplace s.dims dim d' } := by
  unfold Struct.addAttribute at h
  split at h
  · cases h
  · split at h <;> cases h
    exact ⟨_, _, ‹_›, ‹_›, rfl⟩

/-- **the shape of an accepted edit**: the one place that splits on `Edit`. Either no attribute is touched (a
dimension goes, or an empty one comes), or one dimension makes a step. -/
theorem Struct.apply_cases {s s' : Struct} {e : Edit} (h : s.apply e = .ok s') :
    (s'.nextId = s.nextId ∧ (∀ p ∈ s'.dims, p ∈ s.dims ∨ p.2.attrs = []) ∧
      ((s.dims.map (·.1)).Nodup → (s'.dims.map (·.1)).Nodup) ∧
      ∀ dn, dn ≠ e.dim → s'.dims.lookup dn = s.dims.lookup dn) ∨
    ∃ d d', s.dims.lookup e.dim = some d ∧ Dim.Step s.nextId s'.nextId d d' ∧
      s.nextId ≤ s'.nextId ∧ s'.dims = areplace s.dims e.dim d' := by
  cases e with
  | addDim n o =>
    simp only [Struct.apply, Struct.addDimension] at h
    split at h <;> cases h
    refine .inl ⟨rfl, fun p hp => (List.mem_append.1 hp).imp_right fun h => by cases List.mem_singleton.1 h; rfl,
      fun hnd => ?_, fun dn hd => ?_⟩
    · rw [List.map_append]
      exact (List.perm_append_singleton n _).nodup_iff.2
        (List.nodup_cons.2 ⟨lookup_eq_none_iff_keys.1 (Option.not_isSome_iff_eq_none.1 ‹_›), hnd⟩)
    · rw [lookup_append_singleton, beq_false_of_ne (show dn ≠ n from hd), if_neg Bool.false_ne_true, Option.or_none]
  | delDim n =>
    simp only [Struct.apply, Struct.delDimension] at h
    split at h <;> cases h
    exact .inl ⟨rfl, fun p hp => .inl (mem_aerase.1 hp).1, fun hnd => hnd.sublist (aerase_sublist.map _),
      fun dn hd => lookup_aerase.trans (if_neg hd)⟩
  | addAttr dn n hy af =>
    obtain ⟨d, d', hd, hf, rfl⟩ := Struct.addAttribute_spec h
    exact .inr ⟨d, d', hd, Dim.addAttribute_step hf, Nat.le_succ _, rfl⟩
  | delAttr dn n =>
    obtain ⟨d, d', hd, hf, rfl⟩ := Struct.onDim_spec h
    exact .inr ⟨d, d', hd, Dim.removeAttribute_step _ _ hf, Nat.le_refl _, rfl⟩
  | rename dn o n =>
    obtain ⟨d, d', hd, hf, rfl⟩ := Struct.onDim_spec h
    exact .inr ⟨d, d', hd, Dim.renameAttribute_step _ _ hf, Nat.le_refl _, rfl⟩
  | disable dn n =>
    obtain ⟨d, d', hd, hf, rfl⟩ := Struct.onDim_spec h
    exact .inr ⟨d, d', hd, Dim.disableAttribute_step _ _ hf, Nat.le_refl _, rfl⟩

theorem Struct.apply_nextId_le {s s' : Struct} {e : Edit} (h : s.apply e = .ok s') : s.nextId ≤ s'.nextId := by
  rcases Struct.apply_cases h with ⟨e, -⟩ | ⟨_, _, _, _, hle, _⟩
  · exact Nat.le_of_eq e.symm
  · exact hle

theorem Struct.apply_lookup_ne {s s' : Struct} {e : Edit} (h : s.apply e = .ok s') {dn : String}
    (hd : dn ≠ e.dim) : s'.dims.lookup dn = s.dims.lookup dn := by
  rcases Struct.apply_cases h with ⟨-, -, -, hl⟩ | ⟨_, _, _, _, _, hdims⟩
  · exact hl dn hd
  · rw [hdims, lookup_areplace_other hd]

theorem Struct.apply_all_back {s s' : Struct} {e : Edit} (h : s.apply e = .ok s')
    {t' : String × String × Attr} (ht' : t' ∈ s'.all) :
    (∃ t ∈ s.all, t.2.2.id = t'.2.2.id ∧ t.2.2.hyb = t'.2.2.hyb ∧ (t.2.2.ro = true → t'.2.2.ro = true)) ∨
      (s.nextId ≤ t'.2.2.id ∧ t'.2.2.id < s'.nextId) := by
  rcases Struct.apply_cases h with ⟨-, hsub, -⟩ | ⟨d, d', hd, st, _, hdims⟩
  · exact .inl ⟨t', all_subset hsub t' ht', rfl, rfl, id⟩
  · rcases mem_all_areplace hdims ht' with ⟨ht, _⟩ | ⟨_, hq⟩
    · exact .inl ⟨t', ht, rfl, rfl, id⟩
    · exact (st.back _ hq).imp_left fun ⟨q, hq, h⟩ => ⟨(e.dim, q.1, q.2), mem_all (lookup_mem hd) hq, h⟩

theorem Struct.apply_idsBelow {s s' : Struct} {e : Edit} (h : s.apply e = .ok s') (hb : s.IdsBelow) :
    s'.IdsBelow := by
  intro p hp q hq
  rcases Struct.apply_all_back h (mem_all (n := q.1) (a := q.2) hp hq) with ⟨t, ht, e, _⟩ | ⟨_, hlt⟩
  · exact e ▸ Nat.lt_of_lt_of_le (all_ids_below hb t ht) (Struct.apply_nextId_le h)
  · exact hlt

theorem Struct.run_induction {P : Struct → Prop} {es : List Edit}
    (step : ∀ e ∈ es, ∀ s s', P s → s.apply e = .ok s' → P s') {s : Struct} (h : P s) : P (s.run es) :=
  List.foldlRecOn es _ h fun s hs e he => by
    cases ha : s.apply e with
    | error _ => exact hs
    | ok s' => exact step e he s s' hs ha

theorem Struct.run_idsBelow (s : Struct) (es : List Edit) (hb : s.IdsBelow) :
    (s.run es).IdsBelow ∧ s.nextId ≤ (s.run es).nextId :=
  Struct.run_induction (P := fun s' => s'.IdsBelow ∧ s.nextId ≤ s'.nextId)
    (fun _ _ _ _ h ha => ⟨Struct.apply_idsBelow ha h.1, Nat.le_trans h.2 (Struct.apply_nextId_le ha)⟩)
    ⟨hb, Nat.le_refl _⟩

theorem Struct.WF.dim_ids {S : Struct} (hS : S.WF) {dn : String} {d : Dim} (hd : (dn, d) ∈ S.dims)
    {q q' : String × Attr} (hq : q ∈ d.attrs) (hq' : q' ∈ d.attrs) (hid : q.2.id = q'.2.id) : q = q' := by
  have := hS.ids _ (mem_all hd (show (q.1, q.2) ∈ d.attrs from hq)) _ (mem_all hd (show (q'.1, q'.2) ∈ d.attrs from hq')) hid
  simp only [Prod.mk.injEq] at this
  exact Prod.ext this.2.1 this.2.2

theorem Struct.WF.areplace {S : Struct} (hS : S.WF) {dn : String} {d d' : Dim} (n' : Nat)
    (hd : S.dims.lookup dn = some d)
    (h1 : (d'.attrs.map (·.1)).Nodup)
    (h2 : ∀ q ∈ d'.attrs, (∃ q0 ∈ d.attrs, q0.2.id = q.2.id) ∨ (∀ t ∈ S.all, t.2.2.id ≠ q.2.id))
    (h3 : ∀ q1 ∈ d'.attrs, ∀ q2 ∈ d'.attrs, q1.2.id = q2.2.id → q1 = q2) :
    ({ nextId := n', dims := areplace S.dims dn d' } : Struct).WF := by
  have hdS : (dn, d) ∈ S.dims := lookup_mem hd
  -- an attribute of the new dimension shares no identifier with another dimension
  have apart : ∀ t ∈ S.all, t.1 ≠ dn → ∀ q ∈ d'.attrs, t.2.2.id ≠ q.2.id := by
    intro t ht hne q hq hid
    rcases h2 q hq with ⟨q0, hq0, hq0id⟩ | hfresh
    · exact hne (congrArg (·.1) (hS.ids t ht _ (mem_all hdS (show (q0.1, q0.2) ∈ d.attrs from hq0))
        (hid.trans hq0id.symm)))
    · exact hfresh t ht hid
  refine ⟨(keys_areplace (l := S.dims)).symm ▸ hS.dims, fun p hp => ?_, fun t1 ht1 t2 ht2 hid => ?_⟩
  · rcases mem_areplace.1 hp with ⟨hp, _⟩ | ⟨rfl, _⟩
    · exact hS.names p hp
    · exact h1
  · rcases mem_all_areplace rfl ht1 with ⟨o1, ne1⟩ | ⟨e1, m1⟩ <;> rcases mem_all_areplace rfl ht2 with ⟨o2, ne2⟩ | ⟨e2, m2⟩
    · exact hS.ids t1 o1 t2 o2 hid
    · exact absurd hid (apart t1 o1 ne1 _ m2)
    · exact absurd hid.symm (apart t2 o2 ne2 _ m1)
    · obtain ⟨e3, e4⟩ := Prod.mk.inj (h3 _ m1 _ m2 hid)
      exact Prod.ext (e1.trans e2.symm) (Prod.ext e3 e4)

theorem Struct.apply_wf {s s' : Struct} {e : Edit} (hS : s.WF) (hb : s.IdsBelow) (h : s.apply e = .ok s') : s'.WF := by
  rcases Struct.apply_cases h with ⟨-, hsub, hnd, -⟩ | ⟨d, d', hd, st, _, hdims⟩
  · exact ⟨hnd hS.dims, fun p hp => (hsub p hp).elim (hS.names p) fun e => by rw [e]; exact List.nodup_nil,
      fun t1 h1 t2 h2 => hS.ids t1 (all_subset hsub t1 h1) t2 (all_subset hsub t2 h2)⟩
  · obtain ⟨n', dims'⟩ := s'
    subst hdims
    have hdS := lookup_mem hd
    have hnd := hS.names _ hdS
    -- inside one dimension, "no identifier twice" is `Nodup` of the list of identifiers
    have hids : (d.attrs.map (·.2.id)).Nodup :=
      (nodup_map_iff (nodup_of_nodup_map _ hnd)).2 fun a ha b hb => hS.dim_ids hdS ha hb
    refine hS.areplace n' hd (st.names hnd) (fun q hq => ?_)
      ((nodup_map_iff (nodup_of_nodup_map _ (st.names hnd))).1 (st.ids hnd (hb _ hdS) hids))
    refine (st.back q hq).imp (fun ⟨q0, h0, e, _⟩ => ⟨q0, h0, e⟩) fun ⟨hle, _⟩ t ht e => ?_
    exact Nat.lt_irrefl _ (Nat.lt_of_lt_of_le (e ▸ all_ids_below hb t ht) hle)

end CC
