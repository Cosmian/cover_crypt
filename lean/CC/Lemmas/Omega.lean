import CC.Lemmas.Edits
import CC.Lemmas.Comb
import CC.Lemmas.Leb
/-! Identifiers over edits (disabled stays disabled, a hint does not change) and the rights `omega`
computes from the structure: points of the structure with the flags of their attributes. -/
namespace CC

/-- the identifier `i` has been handed out and every attribute still carrying it is read-only -/
def Struct.IdDisabled (s : Struct) (i : Nat) : Prop :=
  i < s.nextId ∧ ∀ t ∈ s.all, t.2.2.id = i → t.2.2.ro = true

theorem Struct.IdDisabled.apply {s s' : Struct} {e : Edit} {i : Nat} (hd : s.IdDisabled i)
    (h : s.apply e = .ok s') : s'.IdDisabled i := by
  refine ⟨Nat.lt_of_lt_of_le hd.1 (Struct.apply_nextId_le h), fun t' ht' hi => ?_⟩
  rcases Struct.apply_all_back h ht' with ⟨t, ht, e1, _, hro⟩ | ⟨hle, _⟩
  · exact hro (hd.2 t ht (e1.trans hi))
  · exact absurd hd.1 (Nat.not_lt.2 (hi ▸ hle))

/-- **a disabled identifier stays disabled through every successful edit** (there is no enable
operation; a deleted attribute's identifier is never reissued) -/
theorem Struct.apply_idDisabled {s s' : Struct} {e : Edit} {i : Nat} (hS : s.WF) (hb : s.IdsBelow)
    (h : s.apply e = .ok s') (hd : s.IdDisabled i) : s'.IdDisabled i :=
  hd.apply h

theorem Struct.disable_makes_disabled {s s' : Struct} {dn n : String} (hS : s.WF) (hb : s.IdsBelow)
    (h : s.disableAttribute dn n = .ok s') :
    ∃ d a, s.dims.lookup dn = some d ∧ d.attrs.lookup n = some a ∧ s'.IdDisabled a.id := by
  obtain ⟨d, d', hdl, hf, rfl⟩ := Struct.onDim_spec h
  obtain ⟨a, hl, rfl⟩ := Dim.disableAttribute_ok.1 hf
  have hdS : (dn, d) ∈ s.dims := lookup_mem hdl
  have hna : (n, a) ∈ d.attrs := lookup_mem hl
  refine ⟨d, a, hdl, hl, hb _ hdS _ hna, fun t ht hid => ?_⟩
  -- the identifier is carried by `(dn, n, a)` alone, and that attribute is the one replaced
  rcases mem_all_areplace rfl ht with ⟨o', hne⟩ | ⟨e1, m1⟩
  · exact absurd (congrArg (·.1) (hS.ids t o' (dn, n, a) (mem_all hdS hna) hid)) hne
  · rcases mem_areplace.1 m1 with ⟨h1, hne⟩ | ⟨h1, _⟩
    · exact absurd (congrArg (·.1) (hS.dim_ids hdS h1 hna hid)) hne
    · exact congrArg (·.2.ro) h1

theorem nodup_keys_rinsert {β : Type} {l : List (Right × β)} (k : Right) (v : β) (h : (l.map (·.1)).Nodup) :
    ((rinsert l k v).map (·.1)).Nodup := by
  unfold rinsert
  split
  · rwa [keys_map_of_fst replace_fst]
  · rename_i hk
    rw [List.map_append]
    exact (List.perm_append_singleton k _).nodup_iff.2 (List.nodup_cons.2 ⟨fun ha => hk (lookup_isSome_iff_keys.2 ha), h⟩)

theorem mem_rinsert {β : Type} {l : List (Right × β)} {k : Right} {v : β} {p : Right × β}
    (h : p ∈ rinsert l k v) : p ∈ l ∨ p = (k, v) := by
  unfold rinsert at h
  split at h
  · exact (mem_map_replace.1 h).imp And.left And.left
  · exact (List.mem_append.1 h).imp_right List.mem_singleton.1

theorem mem_omega {s : Struct} {r : Right} {h ro : Bool} (hm : (r, h, ro) ∈ s.omega) :
    ∃ p, (p, h, ro) ∈ combine (s.dims.map (·.2)) ∧ r = Right.fromPoint p := by
  obtain ⟨⟨p, h', ro'⟩, hq, heq⟩ := List.foldlRecOn
    (motive := fun acc : List (Right × Bool × Bool) => ∀ x ∈ acc, ∃ q ∈ combine (s.dims.map (·.2)), x = (Right.fromPoint q.1, q.2))
    _ _ (fun _ h => (List.not_mem_nil h).elim) (fun _ ih q hq x hx => (mem_rinsert hx).elim (ih x) fun e => ⟨q, hq, e⟩) _ hm
  cases heq
  exact ⟨p, hq, rfl⟩

theorem mem_omega_attrs {s : Struct} {r : Right} {h ro : Bool} (hm : (r, h, ro) ∈ s.omega) :
    ∃ as : List Attr, r = Right.fromPoint (as.map (·.id)) ∧ h = as.any (·.hyb) ∧ ro = as.any (·.ro) ∧
      ∀ a ∈ as, ∃ dn d n, (dn, d) ∈ s.dims ∧ (n, a) ∈ d.attrs := by
  obtain ⟨p, hp, rfl⟩ := mem_omega hm
  obtain ⟨as, hc, rfl, rfl, rfl⟩ := (mem_combine _ _ _ _).1 hp
  refine ⟨as, rfl, rfl, rfl, fun a ha => ?_⟩
  obtain ⟨p, hp, n, hn⟩ := hc.mem_named ha
  exact ⟨p.1, p.2, n, hp, hn⟩

theorem omega_ro_of_disabled {s : Struct} {i : Nat} (hd : s.IdDisabled i) {r : Right} {h ro : Bool}
    (hm : (r, h, ro) ∈ s.omega) {ids : List Nat} (hr : r = Right.fromPoint ids) (hi : i ∈ ids) : ro = true := by
  obtain ⟨as, rfl, _, rfl, hall⟩ := mem_omega_attrs hm
  obtain ⟨a, ha, rfl⟩ := List.mem_map.1 (((Right.fromPoint_eq_iff _ _).1 hr).mem_iff.2 hi)
  obtain ⟨dn, d, n, hd', hn⟩ := hall a ha
  exact List.any_eq_true.2 ⟨a, ha, hd.2 (dn, n, a) (mem_all hd' hn) rfl⟩

theorem omega_keys_nodup (s : Struct) : (s.omega.map (·.1)).Nodup :=
  List.foldlRecOn (motive := fun acc : List (Right × Bool × Bool) => (acc.map (·.1)).Nodup) _ _ (b := []) List.nodup_nil
    fun _ h _ _ => nodup_keys_rinsert _ _ h

/-- some attribute still carries the identifier `i` -/
def Struct.live (s : Struct) (i : Nat) : Prop := ∃ t ∈ s.all, t.2.2.id = i
/-- the hint of the attribute carrying `i` (what `World.Coh.hint` compares the newest secret's flavour with) -/
def Struct.hybId (s : Struct) (i : Nat) : Bool := s.all.any (fun t => t.2.2.id == i && t.2.2.hyb)

theorem Struct.hybId_of_mem {s : Struct} (hS : s.WF) {t : String × String × Attr} (ht : t ∈ s.all) :
    s.hybId t.2.2.id = t.2.2.hyb := by
  rw [Bool.eq_iff_iff, Struct.hybId, List.any_eq_true]
  simp only [Bool.and_eq_true, beq_iff_eq]
  -- an attribute with the same identifier is `t` itself
  exact ⟨fun ⟨t', ht', hid, hh⟩ => hS.ids t' ht' t ht hid ▸ hh, fun hh => ⟨t, ht, rfl, hh⟩⟩

theorem omega_spec {s : Struct} (hS : s.WF) (hb : s.IdsBelow) {r : Right} {h ro : Bool}
    (hm : (r, h, ro) ∈ s.omega) :
    ∃ ids, r = Right.fromPoint ids ∧ (∀ i ∈ ids, s.live i ∧ i < s.nextId) ∧ h = ids.any s.hybId := by
  obtain ⟨as, rfl, rfl, _, hall⟩ := mem_omega_attrs hm
  have hmem : ∀ a ∈ as, ∃ dn n, (dn, n, a) ∈ s.all := fun a ha =>
    let ⟨dn, d, n, hd, hn⟩ := hall a ha; ⟨dn, n, mem_all hd hn⟩
  refine ⟨as.map (·.id), rfl, fun i hi => ?_, ?_⟩
  · obtain ⟨a, ha, rfl⟩ := List.mem_map.1 hi
    obtain ⟨dn, n, hmem⟩ := hmem a ha
    exact ⟨⟨_, hmem, rfl⟩, all_ids_below hb _ hmem⟩
  · rw [List.any_map]
    refine any_congr_mem fun a ha => ?_
    obtain ⟨dn, n, hmem⟩ := hmem a ha
    rw [Function.comp, Struct.hybId_of_mem hS hmem]

theorem Struct.hybId_stable {s s' : Struct} {e : Edit} (hS : s.WF) (hb : s.IdsBelow) (h : s.apply e = .ok s')
    {i : Nat} (hlt : i < s.nextId) (hl : s'.live i) : s.live i ∧ s'.hybId i = s.hybId i := by
  obtain ⟨t', ht', rfl⟩ := hl
  -- the attribute was there before, with this identifier and hint: a new one would carry a new identifier
  rcases Struct.apply_all_back h ht' with ⟨t, ht, hid, hhy, _⟩ | ⟨hle, _⟩
  · refine ⟨⟨t, ht, hid⟩, ?_⟩
    rw [Struct.hybId_of_mem (Struct.apply_wf hS hb h) ht', ← hid, Struct.hybId_of_mem hS ht, hhy]
  · exact absurd hlt (Nat.not_lt.2 hle)

end CC
