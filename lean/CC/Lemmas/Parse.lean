import CC.Model.Policy
/-! The steps of the policy parser, for its soundness on the documented grammar (`Props/C15Sound.lean`):
trimming, the parenthesis matcher, attribute tokens, and one lemma for each arm of the parser loop that
the grammar uses (blank, `&&`, `||`, parenthesis, attribute). -/
namespace CC
namespace Parse

def AllWs (w : List Char) : Prop := ∀ c ∈ w, isWs c = true

theorem dropWhile_all {α} (p : α → Bool) (l : List α) (h : ∀ x ∈ l, p x = true) : l.dropWhile p = [] := by
  simpa only [List.append_nil, List.dropWhile_nil] using List.dropWhile_append_of_pos (l₂ := []) h

theorem dropWhile_append_cons {α} {p : α → Bool} {c : α} (hc : p c = false) (a b : List α) :
    (a ++ c :: b).dropWhile p = a.dropWhile p ++ c :: b := by
  induction a with
  | nil => exact List.dropWhile_cons_of_neg (Bool.eq_false_iff.1 hc)
  | cons x a ih => rw [List.cons_append, List.dropWhile_cons, List.dropWhile_cons]; split <;> simp only [ih, List.cons_append]

theorem dropWhile_idem {α} (p : α → Bool) (l : List α) : (l.dropWhile p).dropWhile p = l.dropWhile p := by
  induction l with
  | nil => rfl
  | cons x l ih => rw [List.dropWhile_cons]; split; exact ih; exact List.dropWhile_cons_of_neg ‹_›

theorem allWs_or_split (s : List Char) :
    AllWs s ∨ ∃ w c t, s = w ++ c :: t ∧ AllWs w ∧ isWs c = false := by
  induction s with
  | nil => exact .inl (List.forall_mem_nil _)
  | cons a s ih =>
    cases ha : isWs a with
    | false => exact .inr ⟨[], a, s, rfl, List.forall_mem_nil _, ha⟩
    | true =>
      rcases ih with h | ⟨w, c, t, rfl, hw, hc⟩
      · exact .inl (List.forall_mem_cons.2 ⟨ha, h⟩)
      · exact .inr ⟨a :: w, c, t, rfl, List.forall_mem_cons.2 ⟨ha, hw⟩, hc⟩

theorem trimStart_ws (w s : List Char) (hw : AllWs w) : trimStart (w ++ s) = trimStart s :=
  List.dropWhile_append_of_pos hw

theorem trimStart_cons (c : Char) (s : List Char) (hc : isWs c = false) : trimStart (c :: s) = c :: s :=
  List.dropWhile_cons_of_neg (Bool.eq_false_iff.1 hc)

theorem trimEnd_ws (s w : List Char) (hw : AllWs w) : trimEnd (s ++ w) = trimEnd s := by
  unfold trimEnd
  rw [List.reverse_append, List.dropWhile_append_of_pos fun c hc => hw c (List.mem_reverse.1 hc)]

theorem trimEnd_append_cons (p : List Char) {c : Char} (hc : isWs c = false) (t : List Char) :
    trimEnd (p ++ c :: t) = p ++ c :: trimEnd t := by
  unfold trimEnd
  rw [List.reverse_append, List.reverse_cons, List.append_assoc, List.singleton_append,
    dropWhile_append_cons hc]
  simp

theorem trimEnd_cons (c : Char) (s : List Char) (hc : isWs c = false) : trimEnd (c :: s) = c :: trimEnd s :=
  trimEnd_append_cons [] hc s

theorem trimEnd_append_nonws (p : List Char) (c : Char) (hc : isWs c = false) :
    trimEnd (p ++ [c]) = p ++ [c] :=
  trimEnd_append_cons p hc []

theorem trimEnd_idem (s : List Char) : trimEnd (trimEnd s) = trimEnd s := by
  unfold trimEnd
  rw [List.reverse_reverse, dropWhile_idem]

theorem trimStart_trimEnd (s : List Char) : trimStart (trimEnd s) = trimEnd (trimStart s) := by
  rcases allWs_or_split s with hs | ⟨w, c, t, rfl, hw, hc⟩
  · rw [show trimEnd s = [] from trimEnd_ws [] s hs, trimStart, trimStart, dropWhile_all _ _ hs]; rfl
  · rw [trimEnd_append_cons w hc, trimStart_ws _ _ hw, trimStart_ws _ _ hw, trimStart_cons _ _ hc,
      trimStart_cons _ _ hc, trimEnd_cons _ _ hc]

theorem trim_ws_right (s w : List Char) (hw : AllWs w) : trim (s ++ w) = trim s := by
  unfold trim; rw [← trimStart_trimEnd, trimEnd_ws s w hw, trimStart_trimEnd]

theorem trim_cons (c : Char) (s : List Char) (hc : isWs c = false) : trim (c :: s) = c :: trimEnd s := by
  rw [trim, trimStart_cons c s hc, trimEnd_cons c s hc]

theorem trim_trimEnd (s : List Char) : trim (trimEnd s) = trim s := by
  unfold trim; rw [trimStart_trimEnd, trimEnd_idem]

/-- the loop looks at its input only through `trim` -/
theorem parseLoop_congr (q : List AP) {a b : List Char} (h : trim a = trim b) : parseLoop q a = parseLoop q b := by
  rw [parseLoop.eq_def q a, parseLoop.eq_def q b, h]

theorem parseLoop_trimEnd (q : List AP) (e : List Char) : parseLoop q (trimEnd e) = parseLoop q e :=
  parseLoop_congr q (trim_trimEnd e)

theorem parseLoop_ws (q : List AP) {w : List Char} (hw : AllWs w) (s : List Char) :
    parseLoop q (w ++ s) = parseLoop q s :=
  parseLoop_congr q (congrArg trimEnd (trimStart_ws w s hw))

theorem parseLoop_blank (q : List AP) {w : List Char} (hw : AllWs w) :
    parseLoop q w = (match q with | first :: rest => .ok (conjugate first rest) | [] => .error .invalidBool) := by
  rw [parseLoop.eq_def, show trim w = [] from trim_ws_right [] w hw]
  rfl

theorem parseLoop_and (q : List AP) (rest : List Char) :
    parseLoop q ('&' :: '&' :: rest) = if q.isEmpty then .error .invalidBool else parseLoop q rest := by
  rw [parseLoop.eq_def, trim_cons _ _ (by decide), trimEnd_cons _ _ (by decide), ← parseLoop_trimEnd q rest]
  rfl

theorem parseLoop_or (q : List AP) (rest : List Char) :
    parseLoop q ('|' :: '|' :: rest) =
      match q with
      | [] => .error .invalidBool
      | base :: qs =>
        match parseLoop [] rest with
        | .error err => .error err
        | .ok rhs => .ok ((conjugate base qs).or rhs) := by
  rw [parseLoop.eq_def, trim_cons _ _ (by decide), trimEnd_cons _ _ (by decide), ← parseLoop_trimEnd [] rest]
  rfl

inductive Bal : List Char → Prop
  | nil : Bal []
  | other (c : Char) (s : List Char) : c ≠ '(' → c ≠ ')' → Bal s → Bal (c :: s)
  | paren (s t : List Char) : Bal s → Bal t → Bal ('(' :: s ++ ')' :: t)

theorem Bal.append {s t : List Char} (hs : Bal s) (ht : Bal t) : Bal (s ++ t) := by
  induction hs with
  | nil => exact ht
  | other c s h1 h2 _ ih => exact .other c _ h1 h2 ih
  | paren s u hs _ _ ih2 =>
    rw [List.append_assoc]
    exact .paren s (u ++ t) hs ih2

/-- the matcher skips a balanced string -/
theorem findClose_bal {s : List Char} (hs : Bal s) : ∀ (rest : List Char) (d i : Nat),
    findClose (s ++ rest) d i = findClose rest d (i + s.length) := by
  induction hs with
  | nil => intro rest d i; rfl
  | other c s h1 h2 _ ih =>
    intro rest d i
    rw [List.cons_append, findClose, if_neg h1, if_neg h2, ih, List.length_cons, Nat.add_right_comm, Nat.add_assoc]
  | paren s t _ _ ih1 ih2 =>
    intro rest d i
    rw [List.append_assoc, List.cons_append, List.cons_append, findClose, if_pos rfl, ih1, findClose,
      if_neg (by decide), if_pos rfl, if_neg (Nat.succ_ne_zero d), ih2]
    simp only [List.length_cons, List.length_append]
    congr 1
    omega

theorem parseLoop_paren (q : List AP) {s : List Char} (hs : Bal s) (rest : List Char) :
    parseLoop q ('(' :: s ++ ')' :: rest) =
      match parseLoop [] s with
      | .error _ => .error .invalidBool
      | .ok sub => parseLoop (q ++ [sub]) rest := by
  have hfc : findClose (s ++ ')' :: trimEnd rest) 0 0 = some s.length := by
    rw [findClose_bal hs]; simp only [findClose, Char.reduceEq, ↓reduceIte, Nat.zero_add]
  rw [parseLoop.eq_def, List.cons_append, trim_cons _ _ (by decide), trimEnd_append_cons s (by decide)]
  simp [hfc, parseLoop_trimEnd]
  rfl

/-- what may follow a token: blanks, then the end of the expression or a metacharacter -/
def Boundary (rest : List Char) : Prop :=
  ∃ w tail, rest = w ++ tail ∧ AllWs w ∧ (tail = [] ∨ ∃ c t, tail = c :: t ∧ isMeta c = true)

/-- the text of a qualified attribute: `dimension :: name`, with blanks allowed around the two
names (not before the dimension: leading blanks belong to the context); no metacharacter and no
colon inside the names -/
def AtomText (raw : List Char) (a : QA) : Prop :=
  ∃ c0 d n, raw = (c0 :: d) ++ ':' :: ':' :: n ∧ isWs c0 = false ∧
    (∀ c ∈ c0 :: d, isMeta c = false ∧ c ≠ ':') ∧ (∀ c ∈ n, isMeta c = false ∧ c ≠ ':') ∧
    trim n ≠ [] ∧ a = ⟨String.ofList (trim (c0 :: d)), String.ofList (trim n)⟩

theorem takeWhile_notMeta (x tail : List Char) (hx : ∀ c ∈ x, isMeta c = false)
    (ht : tail = [] ∨ ∃ c t, tail = c :: t ∧ isMeta c = true) :
    (x ++ tail).takeWhile (fun c => !isMeta c) = x := by
  rw [List.takeWhile_append_of_pos (by simpa only [Bool.not_eq_eq_eq_not, Bool.not_true] using hx)]
  rcases ht with rfl | ⟨c, t, rfl, hc⟩
  · rw [List.takeWhile_nil, List.append_nil]
  · rw [List.takeWhile_cons_of_neg (by rw [hc]; decide), List.append_nil]

theorem splitOnce_spec : ∀ (d n : List Char), (∀ c ∈ d, c ≠ ':') → splitOnce (d ++ ':' :: ':' :: n) = some (d, n)
  | [], n, _ => rfl
  | c :: d, n, h => by
    have ⟨hc, hd⟩ := List.forall_mem_cons.1 h
    rw [List.cons_append, splitOnce, splitOnce_spec d n hd]
    · rfl
    · intro _ heq; exact absurd heq hc

theorem containsSep_false : ∀ (n : List Char), (∀ c ∈ n, c ≠ ':') → containsSep n = false
  | [], _ => rfl
  | c :: n, h => by
    have ⟨hc, hn⟩ := List.forall_mem_cons.1 h
    rw [containsSep, containsSep_false n hn]
    intro _ heq; exact absurd heq hc

theorem qaOfStr_atom (d m : List Char) (hd : ∀ c ∈ d, c ≠ ':') (hm : ∀ c ∈ m, c ≠ ':') (hdne : d ≠ []) (hmne : m ≠ []) :
    qaOfStr (d ++ ':' :: ':' :: m) = .ok ⟨String.ofList (trim d), String.ofList (trim m)⟩ := by
  rw [qaOfStr, splitOnce_spec d m hd]
  simp [containsSep_false m hm, hdne, hmne]

theorem ws_not_meta {c : Char} (h : isWs c = true) : isMeta c = false := by
  cases hm : isMeta c with
  | false => rfl
  | true =>
    simp only [isMeta, Bool.or_eq_true, decide_eq_true_eq] at hm
    rcases hm with ((rfl | rfl) | rfl) | rfl <;> exact absurd h (by decide)

theorem ws_ne_colon {c : Char} (h : isWs c = true) : c ≠ ':' := by
  rintro rfl; exact absurd h (by decide)

theorem trimEnd_ne_nil_of_trim {n : List Char} (h : trim n ≠ []) : trimEnd n ≠ [] :=
  fun h0 => h (by rw [← trim_trimEnd, h0]; rfl)

theorem mem_trimEnd {n : List Char} {c : Char} (h : c ∈ trimEnd n) : c ∈ n :=
  List.mem_reverse.1 (List.dropWhile_subset _ (List.mem_reverse.1 h))

theorem notMeta_atom {c0 : Char} {d m : List Char} (hd : ∀ c ∈ c0 :: d, isMeta c = false ∧ c ≠ ':')
    (hm : ∀ c ∈ m, isMeta c = false ∧ c ≠ ':') : ∀ c ∈ c0 :: (d ++ ':' :: ':' :: m), isMeta c = false := by
  rw [← List.cons_append, List.forall_mem_append]
  exact ⟨fun c hc => (hd c hc).1, List.forall_mem_cons.2 ⟨rfl, List.forall_mem_cons.2 ⟨rfl, fun c hc => (hm c hc).1⟩⟩⟩

/-- the attribute arm of the loop, on raw input (`atom_step` is its grammar-facing form) -/
theorem atom_token (q : List AP) {e0 : List Char} {c0 : Char} {d m tail : List Char}
    (h : trim e0 = c0 :: (d ++ ':' :: ':' :: m ++ tail))
    (hd : ∀ c ∈ c0 :: d, isMeta c = false ∧ c ≠ ':') (hm : ∀ c ∈ m, isMeta c = false ∧ c ≠ ':') (hne : m ≠ [])
    (ht : tail = [] ∨ ∃ c t, tail = c :: t ∧ isMeta c = true) :
    parseLoop q e0 =
      parseLoop (q ++ [.term ⟨String.ofList (trim (c0 :: d)), String.ofList (trim m)⟩]) tail := by
  have htw := takeWhile_notMeta _ tail (notMeta_atom hd hm) ht
  have hc := (hd c0 List.mem_cons_self).1
  simp only [isMeta, Bool.or_eq_false_iff, decide_eq_false_iff_not] at hc
  have hqa := qaOfStr_atom (c0 :: d) m (fun c hc => (hd c hc).2) (fun c hc => (hm c hc).2) (List.cons_ne_nil _ _) hne
  rw [parseLoop.eq_def, h]
  simp only [List.cons_append, List.append_assoc] at htw hqa
  simp [hc, htw, hqa]

/-- one attribute token is consumed and pushed on the queue, with its names trimmed -/
theorem atom_step {raw : List Char} {a : QA} (hat : AtomText raw a) (q : List AP) (rest : List Char)
    (hb : Boundary rest) : parseLoop q (raw ++ rest) = parseLoop (q ++ [.term a]) rest := by
  obtain ⟨c0, d, n, rfl, hc0, hd, hn, hnn, rfl⟩ := hat
  obtain ⟨w, tail, rfl, hw, htail⟩ := hb
  rw [parseLoop_ws _ hw]
  rcases htail with rfl | ⟨t0, tt, rfl, ht0⟩
  · -- nothing but blanks follows: they are trimmed away together with those that end the name
    have h : trim ((c0 :: d) ++ ':' :: ':' :: n ++ (w ++ [])) = c0 :: (d ++ ':' :: ':' :: trimEnd n ++ []) := by
      rw [List.append_nil, List.append_nil, List.cons_append, List.cons_append, trim_cons _ _ hc0,
        trimEnd_ws _ _ hw, trimEnd_append_cons d (by decide), trimEnd_cons _ _ (by decide)]
    rw [atom_token q h hd (fun c hc => hn c (mem_trimEnd hc)) (trimEnd_ne_nil_of_trim hnn) (.inl rfl), trim_trimEnd]
  · -- a metacharacter follows: the blanks before it belong to the token
    have ht0ws : isWs t0 = false := Bool.eq_false_iff.2 fun h => by rw [ws_not_meta h] at ht0; cases ht0
    have h : trim ((c0 :: d) ++ ':' :: ':' :: n ++ (w ++ t0 :: tt)) =
        c0 :: (d ++ ':' :: ':' :: (n ++ w) ++ t0 :: trimEnd tt) := by
      rw [List.cons_append, List.cons_append, trim_cons _ _ hc0, ← trimEnd_append_cons _ ht0ws]
      simp only [List.append_assoc, List.cons_append]
    have hnw : ∀ c ∈ n ++ w, isMeta c = false ∧ c ≠ ':' :=
      List.forall_mem_append.2 ⟨hn, fun c h1 => ⟨ws_not_meta (hw c h1), ws_ne_colon (hw c h1)⟩⟩
    have hne : n ++ w ≠ [] := fun h0 => hnn (by rw [(List.append_eq_nil_iff.1 h0).1]; rfl)
    rw [atom_token q h hd hnw hne (.inr ⟨t0, _, rfl, ht0⟩), trim_ws_right n w hw, ← trimEnd_cons _ _ ht0ws,
      parseLoop_trimEnd]

end Parse
end CC

