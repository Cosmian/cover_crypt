import CC.Lemmas.Prims
import CC.Lemmas.Edits
/-! What the primitives leave alone (`Msk.Frame`: everything except the secrets; `Msk.UserSide`: the
operations on user keys touch the register of identifiers only), and `generate_user_id`, `refresh_id`,
`usk_keygen`, `refresh` each read off once (an equation, or a `*_cases` disjunction where the equation would
nest three `if`s); on the way `latestRightSks`, the lookup both of them
make, as a `mapMExcept` (`latestRightSks_eq`). -/
namespace CC

/-- What no operation touches, and how one may move the counter, the register and the structure. -/
structure Msk.Frame (m : Msk) (n : Rng) (m' : Msk) (n' : Rng) : Prop where
  auth : m'.auth = m.auth
  ntracers : m'.ntracers = m.ntracers
  signKey : m'.signKey = m.signKey
  rng : n ≤ n'
  kept : ∀ id ∈ m.users, id.length = m.ntracers → id ∈ m'.users
  fresh : ∀ id ∈ m'.users, id ∈ m.users ∨ id.length = m.ntracers ∧ ∀ t ∈ id, n ≤ t ∧ t < n'
  struct : m'.structure_ = m.structure_ ∨ ∃ e, m.structure_.apply e = .ok m'.structure_

theorem Msk.Frame.of_users {m m' : Msk} {n n' : Rng} (ha : m'.auth = m.auth) (ht : m'.ntracers = m.ntracers)
    (hs : m'.signKey = m.signKey) (hu : m'.users = m.users) (hn : n ≤ n')
    (hst : m'.structure_ = m.structure_ ∨ ∃ e, m.structure_.apply e = .ok m'.structure_) :
    m.Frame n m' n' :=
  ⟨ha, ht, hs, hn, fun _ h _ => hu ▸ h, fun _ h => .inl (hu ▸ h), hst⟩

theorem Msk.Frame.refl (m : Msk) (n : Rng) : m.Frame n m n :=
  .of_users rfl rfl rfl rfl (Nat.le_refl n) (.inl rfl)

theorem Msk.Frame.secrets (m : Msk) (s : RevMap) {n n' : Rng} (h : n ≤ n') :
    m.Frame n { m with secrets := s } n' :=
  .of_users rfl rfl rfl rfl h (.inl rfl)

theorem Msk.Frame.usersBelow {m m' : Msk} {n n' : Rng} (h : m.Frame n m' n')
    (hb : ∀ id ∈ m.users, ∀ t ∈ id, t < n) : ∀ id ∈ m'.users, ∀ t ∈ id, t < n' := fun id hid t ht =>
  (h.fresh id hid).elim (fun ho => Nat.lt_of_lt_of_le (hb id ho t ht) h.rng) fun hf => (hf.2 t ht).2

theorem updateMsk_frame (msk : Msk) (rights : List (Right × Bool × Bool)) (n : Rng) :
    msk.Frame n (updateMsk msk rights n).2.1 (updateMsk msk rights n).2.2 := by
  rcases updateMsk_cases msk rights n with ⟨_, e⟩ | ⟨_, s, _, e⟩ <;> rw [e]
  · exact .refl msk n
  · exact .secrets msk s (updateLoop_mono rights _ n)

theorem updateMsk_structure (msk : Msk) (rights : List (Right × Bool × Bool)) (n : Rng) :
    (updateMsk msk rights n).2.1.structure_ = msk.structure_ := by
  rcases updateMsk_cases msk rights n with ⟨_, e⟩ | ⟨_, s, _, e⟩ <;> rw [e]

theorem rekey_frame (msk : Msk) (rights : List Right) (n : Rng) :
    msk.Frame n (rekey msk rights n).2.1 (rekey msk rights n).2.2 := by
  rcases rekey_cases msk rights n with ⟨_, e⟩ | ⟨_, e⟩ <;> rw [e]
  · exact .refl msk n
  · exact .secrets msk _ (rekeyLoop_mono rights msk.secrets n)

/-- the operations on user keys change nothing but the register of identifiers -/
structure Msk.UserSide (m : Msk) (n : Rng) (m' : Msk) (n' : Rng) : Prop extends m.Frame n m' n' where
  secrets : m'.secrets = m.secrets

theorem Msk.UserSide.refl (m : Msk) (n : Rng) : m.UserSide n m n := ⟨.refl m n, rfl⟩

/-- the identifier `generate_user_id` draws when the counter is at `n` -/
def Msk.freshId (msk : Msk) (n : Rng) : UserId := (List.range msk.ntracers).map (· + n)

/-- `known_users.insert(id)` -/
def Msk.register (msk : Msk) (id : UserId) : Msk :=
  { msk with users := if id ∈ msk.users then msk.users else msk.users ++ [id] }

theorem Msk.length_freshId (msk : Msk) (n : Rng) : (msk.freshId n).length = msk.ntracers := by
  rw [Msk.freshId, List.length_map, List.length_range]

theorem Msk.mem_freshId {msk : Msk} {n t : Nat} (h : t ∈ msk.freshId n) : n ≤ t ∧ t < n + msk.ntracers := by
  obtain ⟨k, hk, rfl⟩ := List.mem_map.1 h
  exact ⟨Nat.le_add_left _ _, by rw [Nat.add_comm k n]; exact Nat.add_lt_add_left (List.mem_range.1 hk) n⟩

theorem Msk.mem_register {msk : Msk} {id i : UserId} : i ∈ (msk.register id).users ↔ i ∈ msk.users ∨ i = id := by
  show i ∈ (if _ then _ else _) ↔ _
  split
  · rename_i h; exact ⟨.inl, fun h' => h'.elim (fun h'' => h'') fun e => e ▸ h⟩
  · rw [List.mem_append, List.mem_singleton]

theorem generateUserId_eq (msk : Msk) (n : Rng) : generateUserId msk n =
    if msk.ntracers = 0 then (.error .keyError, msk, n)
    else (.ok (msk.freshId n), msk.register (msk.freshId n), n + msk.ntracers) := rfl

theorem generateUserId_mono (msk : Msk) (n : Rng) : n ≤ (generateUserId msk n).2.2 := by
  rw [generateUserId_eq]
  split
  · exact Nat.le_refl n
  · exact Nat.le_add_right _ _

theorem Msk.UserSide.register (msk : Msk) (n : Rng) :
    msk.UserSide n (msk.register (msk.freshId n)) (n + msk.ntracers) :=
  ⟨⟨rfl, rfl, rfl, Nat.le_add_right _ _, fun _ hi _ => Msk.mem_register.2 (.inl hi),
    fun i hi => (Msk.mem_register.1 hi).imp_right fun (e : i = msk.freshId n) =>
      ⟨by rw [e]; exact msk.length_freshId n, fun _ ht => Msk.mem_freshId (e ▸ ht)⟩,
    .inl rfl⟩, rfl⟩

theorem refreshId_cases (msk : Msk) (id : UserId) (n : Rng) :
    (id ∉ msk.users ∧ refreshId msk id n = (.error .tracing, msk, n)) ∨
    (id ∈ msk.users ∧ id.length = msk.ntracers ∧ refreshId msk id n = (.ok id, msk, n)) ∨
    (id ∈ msk.users ∧ id.length ≠ msk.ntracers ∧ msk.ntracers = 0 ∧
      refreshId msk id n = (.error .keyError, msk, n)) ∨
    (id ∈ msk.users ∧ id.length ≠ msk.ntracers ∧ msk.ntracers ≠ 0 ∧ refreshId msk id n =
      (.ok (msk.freshId n), { msk.register (msk.freshId n) with
        users := (msk.register (msk.freshId n)).users.filter (· ≠ id) }, n + msk.ntracers)) := by
  unfold refreshId
  by_cases hk : id ∈ msk.users
  · rw [if_neg (not_not_intro hk)]
    by_cases hl : id.length = msk.ntracers
    · rw [if_neg (not_not_intro hl)]; exact .inr (.inl ⟨hk, hl, rfl⟩)
    · rw [if_pos hl, generateUserId_eq]
      by_cases h0 : msk.ntracers = 0
      · rw [if_pos h0]; exact .inr (.inr (.inl ⟨hk, hl, h0, rfl⟩))
      · rw [if_neg h0]; exact .inr (.inr (.inr ⟨hk, hl, h0, rfl⟩))
  · rw [if_pos hk]; exact .inl ⟨hk, rfl⟩

theorem refreshId_side (msk : Msk) (id : UserId) (n : Rng) :
    msk.UserSide n (refreshId msk id n).2.1 (refreshId msk id n).2.2 := by
  rcases refreshId_cases msk id n with ⟨_, e⟩ | ⟨_, _, e⟩ | ⟨_, _, _, e⟩ | ⟨_, hl, _, e⟩ <;> rw [e]
  · exact .refl msk n
  · exact .refl msk n
  · exact .refl msk n
  · -- the outdated identifier is dropped, and no identifier of the current level with it
    have h := Msk.UserSide.register msk n
    exact ⟨⟨h.auth, h.ntracers, h.signKey, h.rng,
      fun i hi hil => List.mem_filter.2 ⟨h.kept i hi hil, decide_eq_true fun heq : i = id => hl (heq ▸ hil)⟩,
      fun i hi => h.fresh i (List.mem_filter.1 hi).1, .inl rfl⟩, rfl⟩

theorem refreshId_ok_iff (msk : Msk) (id : UserId) (n : Rng) :
    (∃ nid, (refreshId msk id n).1 = .ok nid) ↔
      id ∈ msk.users ∧ (id.length = msk.ntracers ∨ msk.ntracers ≠ 0) := by
  rcases refreshId_cases msk id n with ⟨hk, e⟩ | ⟨hk, hl, e⟩ | ⟨hk, hl, h0, e⟩ | ⟨hk, hl, h0, e⟩ <;> rw [e]
  · exact ⟨fun ⟨_, h⟩ => (nomatch h), fun h => absurd h.1 hk⟩
  · exact ⟨fun _ => ⟨hk, .inl hl⟩, fun _ => ⟨_, rfl⟩⟩
  · exact ⟨fun ⟨_, h⟩ => (nomatch h), fun h => h.2.elim (absurd · hl) (absurd h0)⟩
  · exact ⟨fun _ => ⟨hk, .inr h0⟩, fun _ => ⟨_, rfl⟩⟩

theorem refreshId_same_level {msk : Msk} {id : UserId} (n : Rng) (hk : id ∈ msk.users)
    (hl : id.length = msk.ntracers) : refreshId msk id n = (.ok id, msk, n) := by
  rcases refreshId_cases msk id n with ⟨hk', _⟩ | ⟨_, _, e⟩ | ⟨_, hl', _⟩ | ⟨_, hl', _⟩
  · exact absurd hk hk'
  · exact e
  · exact absurd hl hl'
  · exact absurd hl hl'

/-- `MasterSecretKey::get_latest_right_sk` for one right, as `latestRightSks` collects it -/
def Msk.latestOf (msk : Msk) (r : Right) : Except Err (Right × List Sk) :=
  match msk.secrets.getLatest r with
  | none => .error .keyError
  | some (_, sk) => .ok (r, [sk])

theorem Msk.latestOf_eq_ok {msk : Msk} {r : Right} {p : Right × List Sk} :
    msk.latestOf r = .ok p ↔ ∃ act sk, msk.secrets.getLatest r = some (act, sk) ∧ p = (r, [sk]) := by
  unfold Msk.latestOf
  split
  · rename_i hl; exact ⟨fun h => (nomatch h), fun ⟨_, _, h, _⟩ => (nomatch hl.symm.trans h)⟩
  · rename_i act sk hl
    exact ⟨fun h => ⟨act, sk, hl, by cases h; rfl⟩, fun ⟨_, _, h, e⟩ => by cases hl.symm.trans h; rw [e]⟩

theorem latestRightSks_eq (msk : Msk) : ∀ rights, latestRightSks msk rights = mapMExcept msk.latestOf rights
  | [] => rfl
  | r :: rest => by
    rw [latestRightSks, mapMExcept, latestRightSks_eq msk rest, Msk.latestOf]
    cases msk.secrets.getLatest r with
    | none => rfl
    | some v => cases mapMExcept msk.latestOf rest <;> rfl

theorem latestRightSks_ok_iff (msk : Msk) (rights : List Right) :
    (∃ v, latestRightSks msk rights = .ok v) ↔ ∀ r ∈ rights, (msk.secrets.getLatest r).isSome = true := by
  rw [latestRightSks_eq]
  constructor
  · rintro ⟨v, h⟩ r hr
    obtain ⟨_, -, hb⟩ := mapMExcept_of_mem h hr
    obtain ⟨_, _, hl, -⟩ := Msk.latestOf_eq_ok.1 hb
    rw [hl]; rfl
  · intro h
    refine mapMExcept_ok fun r hr => ?_
    obtain ⟨⟨act, sk⟩, hl⟩ := Option.isSome_iff_exists.1 (h r hr)
    exact ⟨_, Msk.latestOf_eq_ok.2 ⟨act, sk, hl, rfl⟩⟩

theorem latestRightSks_mem (msk : Msk) (rights : List Right) (chains : RevVec)
    (h : latestRightSks msk rights = .ok chains) (r : Right) (c : List Sk) :
    (r, c) ∈ chains ↔ r ∈ rights ∧ ∃ act sk, msk.secrets.getLatest r = some (act, sk) ∧ c = [sk] := by
  rw [latestRightSks_eq] at h
  rw [mapMExcept_mem h]
  constructor
  · rintro ⟨x, hx, e⟩
    obtain ⟨act, sk, hl, e'⟩ := Msk.latestOf_eq_ok.1 e
    cases e'
    exact ⟨hx, act, sk, hl, rfl⟩
  · rintro ⟨hr, act, sk, hl, rfl⟩
    exact ⟨r, hr, Msk.latestOf_eq_ok.2 ⟨act, sk, hl, rfl⟩⟩

theorem uskKeygen_cases (msk : Msk) (rights : List Right) (n : Rng) :
    (∃ e, uskKeygen msk rights n = (.error e, msk, n)) ∨
    (∃ chains, latestRightSks msk rights = .ok chains ∧ msk.ntracers ≠ 0 ∧ uskKeygen msk rights n =
      (.ok { id := msk.freshId n, auth := msk.auth, nps := msk.ntracers, secrets := chains,
             sig := sign msk (msk.freshId n) chains },
       msk.register (msk.freshId n), n + msk.ntracers)) := by
  unfold uskKeygen
  cases latestRightSks msk rights with
  | error e => exact .inl ⟨e, rfl⟩
  | ok chains =>
    rw [generateUserId_eq]
    by_cases h0 : msk.ntracers = 0
    · rw [if_pos h0]; exact .inl ⟨_, rfl⟩
    · rw [if_neg h0]; exact .inr ⟨chains, rfl, h0, rfl⟩

theorem uskKeygen_side (msk : Msk) (rights : List Right) (n : Rng) :
    msk.UserSide n (uskKeygen msk rights n).2.1 (uskKeygen msk rights n).2.2 := by
  rcases uskKeygen_cases msk rights n with ⟨_, e⟩ | ⟨_, _, _, e⟩ <;> rw [e]
  · exact .refl msk n
  · exact .register msk n

theorem uskKeygen_ok_spec {msk : Msk} {rights : List Right} {n : Rng} {usk : Usk}
    (h : (uskKeygen msk rights n).1 = .ok usk) :
    ∃ chains, latestRightSks msk rights = .ok chains ∧ msk.ntracers ≠ 0 ∧
      usk = { id := msk.freshId n, auth := msk.auth, nps := msk.ntracers, secrets := chains,
              sig := sign msk (msk.freshId n) chains } ∧
      (uskKeygen msk rights n).2 = (msk.register (msk.freshId n), n + msk.ntracers) := by
  rcases uskKeygen_cases msk rights n with ⟨_, e⟩ | ⟨chains, hc, h0, e⟩ <;> rw [e] at h ⊢
  · cases h
  · cases h; exact ⟨chains, hc, h0, rfl, rfl⟩

/-- the first marker of a new identifier is the counter value itself -/
theorem uskKeygen_id_ne {msk : Msk} {rights : List Right} {n : Rng} {usk : Usk}
    (h : (uskKeygen msk rights n).1 = .ok usk) {old : UserId} (hold : ∀ m ∈ old, m < n) : usk.id ≠ old := by
  obtain ⟨chains, -, h0, rfl, -⟩ := uskKeygen_ok_spec h
  intro heq
  have : n ∈ msk.freshId n :=
    List.mem_map.2 ⟨0, List.mem_range.2 (Nat.pos_of_ne_zero h0), Nat.zero_add n⟩
  exact Nat.lt_irrefl n (hold n (heq ▸ this))

/-- the chains `refresh` puts in the key: the user's chains cut to what the master key still holds
(`keep`), or the newest secret of every right the master key still knows -/
def refreshedChains (msk : Msk) (usk : Usk) (keep : Bool) : Except Err RevVec :=
  if keep then .ok (refreshCoordinateKeys msk usk.secrets)
  else latestRightSks msk ((usk.secrets.map (·.1)).filter (fun r => msk.secrets.containsKey r))

theorem refreshedChains_congr {m m' : Msk} (h : m'.secrets = m.secrets) (usk : Usk) (keep : Bool) :
    refreshedChains m' usk keep = refreshedChains m usk keep := by
  unfold refreshedChains refreshCoordinateKeys RevMap.get
  rw [h, latestRightSks_eq, latestRightSks_eq, show m'.latestOf = m.latestOf by unfold Msk.latestOf; rw [h]]

/-- `refresh` read off once: the chains are computed over the master key before the exchange, which
does not touch the secrets -/
theorem refresh_eq (msk : Msk) (usk : Usk) (keep : Bool) (n : Rng) : refresh msk usk keep n =
    if verify msk usk = false then (.error .keyError, msk, usk, n) else
      match (refreshId msk usk.id n).1, refreshedChains msk usk keep with
      | .error e, _ | .ok _, .error e => (.error e, (refreshId msk usk.id n).2.1, usk, (refreshId msk usk.id n).2.2)
      | .ok nid, .ok nr => (.ok (), (refreshId msk usk.id n).2.1,
          { usk with id := nid, secrets := nr, sig := sign (refreshId msk usk.id n).2.1 nid nr },
          (refreshId msk usk.id n).2.2) := by
  unfold refresh
  cases verify msk usk with
  | false => rfl
  | true =>
    have hs := refreshedChains_congr (refreshId_side msk usk.id n).secrets usk keep
    generalize refreshId msk usk.id n = g at hs ⊢
    obtain ⟨res, m', n'⟩ := g
    cases res with
    | error e => rfl
    | ok nid =>
      replace hs : (if keep = true then Except.ok (refreshCoordinateKeys m' usk.secrets) else latestRightSks m'
          ((usk.secrets.map (·.1)).filter fun r => m'.secrets.containsKey r)) = refreshedChains msk usk keep := hs
      dsimp only
      rw [hs]
      cases refreshedChains msk usk keep <;> rfl

theorem refresh_side (msk : Msk) (usk : Usk) (keep : Bool) (n : Rng) :
    msk.UserSide n (refresh msk usk keep n).2.1 (refresh msk usk keep n).2.2.2 := by
  rw [refresh_eq]
  split
  · exact .refl msk n
  · split <;> exact refreshId_side msk usk.id n

theorem refresh_ok_spec {msk : Msk} {usk : Usk} {keep : Bool} {n : Rng} (h : (refresh msk usk keep n).1 = .ok ()) :
    verify msk usk = true ∧ ∃ nid nr, (refreshId msk usk.id n).1 = .ok nid ∧
      refreshedChains msk usk keep = .ok nr ∧
      (refresh msk usk keep n).2 = ((refreshId msk usk.id n).2.1,
        { usk with id := nid, secrets := nr, sig := sign (refreshId msk usk.id n).2.1 nid nr },
        (refreshId msk usk.id n).2.2) := by
  rw [refresh_eq] at h ⊢
  split at h
  · cases h
  rename_i hv
  rw [if_neg hv]
  split at h
  · cases h
  · cases h
  · rename_i nid nr hid hnr
    exact ⟨(Bool.not_eq_false _).mp hv, nid, nr, hid, hnr, rfl⟩

theorem refresh_ok_iff (msk : Msk) (usk : Usk) (keep : Bool) (n : Rng) :
    (refresh msk usk keep n).1 = .ok () ↔
      verify msk usk = true ∧ usk.id ∈ msk.users ∧ (usk.id.length = msk.ntracers ∨ msk.ntracers ≠ 0) ∧
      (keep = true ∨ ∀ r ∈ (usk.secrets.map (·.1)).filter (fun r => msk.secrets.containsKey r),
          (msk.secrets.getLatest r).isSome = true) := by
  have hchains : (∃ nr, refreshedChains msk usk keep = .ok nr) ↔ (keep = true ∨
      ∀ r ∈ (usk.secrets.map (·.1)).filter (fun r => msk.secrets.containsKey r),
        (msk.secrets.getLatest r).isSome = true) := by
    rw [← latestRightSks_ok_iff]
    cases keep with
    | true => exact ⟨fun _ => .inl rfl, fun _ => ⟨_, rfl⟩⟩
    | false => exact ⟨.inr, fun h => h.resolve_left Bool.false_ne_true⟩
  rw [← and_assoc (a := usk.id ∈ msk.users), ← refreshId_ok_iff msk usk.id n, ← hchains]
  refine ⟨fun h => ?_, fun ⟨hv, ⟨nid, hid⟩, nr, hnr⟩ => ?_⟩
  · obtain ⟨hv, nid, nr, hid, hnr, -⟩ := refresh_ok_spec h
    exact ⟨hv, ⟨nid, hid⟩, nr, hnr⟩
  · rw [refresh_eq, if_neg (by rw [hv]; decide), hid, hnr]

end CC
