import CC.Lemmas.Rotation
/-! The coherence of the secrets with the structure. An operation moves the secrets as `ChainStep` says, under
the structure it found, and then possibly the structure by one edit: coherence survives both moves. At the end,
what it gives: no operation alters an existing secret (`step_secrets`), and `update_msk` keeps the secrets of
every right the structure still defines (`update_keeps_secrets`, `update_ok_keys`). -/
namespace CC

structure World.Coh (w : World) : Prop where
  /-- the rights of the master key only mention identifiers already handed out -/
  below : ∀ r c, w.msk.secrets.lookup r = some c →
    ∃ ids, r = Right.fromPoint ids ∧ ∀ i ∈ ids, i < w.msk.structure_.nextId
  /-- the newest secret of a right whose attributes are all live has the flavour they dictate -/
  hint : ∀ r c, w.msk.secrets.lookup r = some c → ∀ ids, r = Right.fromPoint ids →
    (∀ i ∈ ids, w.msk.structure_.live i) → ∀ v, c.head? = some v → v.2.hyb = ids.any w.msk.structure_.hybId
  /-- tokens strictly decrease along every chain (newest first) -/
  sorted : ∀ r c, w.msk.secrets.lookup r = some c → (c.map (·.2.tok)).Pairwise (· > ·)

theorem World.Coh.congr {w w' : World} (hc : w.Coh) (hs : w'.msk.secrets = w.msk.secrets)
    (hst : w'.msk.structure_ = w.msk.structure_) : w'.Coh :=
  ⟨by rw [hs, hst]; exact hc.below, by rw [hs, hst]; exact hc.hint, by rw [hs]; exact hc.sorted⟩

/-- identifiers handed out keep their hint -/
theorem World.Coh.edit {w : World} (hc : w.Coh) (hS : w.msk.structure_.WF ∧ w.msk.structure_.IdsBelow)
    {e : Edit} {s' : Struct} (ha : w.msk.structure_.apply e = .ok s') :
    World.Coh { w with msk := { w.msk with structure_ := s' } } := by
  have hmono := Struct.apply_nextId_le ha
  refine ⟨fun r c hl => ?_, fun r c hl ids hr hlive v hv => ?_, hc.sorted⟩
  · obtain ⟨ids, h1, h2⟩ := hc.below r c hl
    exact ⟨ids, h1, fun i hi => Nat.lt_of_lt_of_le (h2 i hi) hmono⟩
  · obtain ⟨ids0, h1, h2⟩ := hc.below r c hl
    have hperm : ids.Perm ids0 := (Right.fromPoint_eq_iff _ _).1 (hr ▸ h1)
    have hst := fun i hi => Struct.hybId_stable hS.1 hS.2 ha (h2 i (hperm.mem_iff.1 hi)) (hlive i hi)
    rw [hc.hint r c hl ids hr (fun i hi => (hst i hi).1) v hv]
    exact any_congr_mem (fun i hi => (hst i hi).2.symm)

/-- the newest secret of a right has the flavour `omega` dictates already: re-flagging changes its
activation flag only -/
theorem reflag_noop {w : World} (hc : w.Coh) (hS : w.msk.structure_.WF ∧ w.msk.structure_.IdsBelow)
    {k : Right} {h0 : Bool × Sk} {tl : List (Bool × Sk)} {hyb ro : Bool}
    (hl : w.msk.secrets.lookup k = some (h0 :: tl)) (hom : (k, hyb, ro) ∈ w.msk.structure_.omega) :
    (if hyb = true then h0.2 else h0.2.dropHyb) = h0.2 := by
  obtain ⟨ids0, e0, l0, a0⟩ := omega_spec hS.1 hS.2 hom
  have hold : h0.2.hyb = hyb := (hc.hint k (h0 :: tl) hl ids0 e0 (fun i hi => (l0 i hi).1) h0 rfl).trans a0.symm
  cases hyb with
  | true => rfl
  | false => rw [if_neg Bool.false_ne_true]; unfold Sk.dropHyb; rw [← hold]

theorem World.Coh.chains {w : World} (hc : w.Coh) (hinv : w.msk.Inv w.rng)
    (hS : w.msk.structure_.WF ∧ w.msk.structure_.IdsBelow) (hne : w.msk.secrets.NonEmpty)
    {s' : RevMap} {n' : Rng}
    (hstep : ∀ k, ChainStep w.msk.structure_.omega k w.rng n' (w.msk.secrets.lookup k) (s'.lookup k)) :
    World.Coh ⟨{ w.msk with secrets := s' }, n'⟩ := by
  have key : ∀ k c, s'.lookup k = some c →
      (∃ ids, k = Right.fromPoint ids ∧ ∀ i ∈ ids, i < w.msk.structure_.nextId) ∧
      (∀ ids, k = Right.fromPoint ids → (∀ i ∈ ids, w.msk.structure_.live i) → ∀ v, c.head? = some v →
        v.2.hyb = ids.any w.msk.structure_.hybId) ∧
      (c.map (·.2.tok)).Pairwise (· > ·) := by
    intro k c hl
    have hcs := hstep k
    rw [hl] at hcs
    generalize ho : w.msk.secrets.lookup k = old at hcs
    cases hcs with
    | same => exact ⟨hc.below k c ho, hc.hint k c ho, hc.sorted k c ho⟩
    | born _ t hyb ro hnone hom h1 h2 =>
      obtain ⟨ids0, e0, l0, a0⟩ := omega_spec hS.1 hS.2 hom
      refine ⟨⟨ids0, e0, fun i hi => (l0 i hi).2⟩, ?_, List.pairwise_singleton _ _⟩
      intro ids hr _ v hv
      cases hv
      exact a0.trans ((Right.fromPoint_eq_iff _ _).1 (e0 ▸ hr)).any_eq
    | reflag h0 tl hyb ro hom =>
      rw [reflag_noop hc hS ho hom]
      refine ⟨hc.below k _ ho, fun ids hr hlive v hv => ?_, hc.sorted k (h0 :: tl) ho⟩
      cases hv
      exact hc.hint k (h0 :: tl) ho ids hr hlive h0 rfl
    | grown c0 news t1 p1 f1 =>
      have hc0 := hne k c0 (lookup_mem ho)
      refine ⟨hc.below k _ ho, ?_, ?_⟩
      · intro ids hr hlive v hv
        cases news with
        | nil => exact hc.hint k c0 ho ids hr hlive v hv
        | cons a rest =>
          cases hv
          cases c0 with
          | nil => exact absurd rfl hc0
          | cons h0 tl =>
            rw [(f1 v List.mem_cons_self h0 rfl).2]
            exact hc.hint k (h0 :: tl) ho ids hr hlive h0 rfl
      · rw [List.map_append, List.pairwise_append]
        refine ⟨p1, hc.sorted k c0 ho, ?_⟩
        intro a ha b hb
        obtain ⟨v, hv, rfl⟩ := List.mem_map.1 ha
        obtain ⟨u, hu, rfl⟩ := List.mem_map.1 hb
        exact Nat.lt_of_lt_of_le (hinv.below k c0 (lookup_mem ho) u hu) (t1 v hv).1
    | pruned c0 =>
      refine ⟨hc.below k _ ho, ?_, (hc.sorted k c0 ho).sublist ((List.take_sublist 1 c0).map _)⟩
      intro ids hr hlive v hv
      cases c0 with
      | nil => cases hv
      | cons h0 tl => exact hc.hint k (h0 :: tl) ho ids hr hlive v hv
  exact ⟨fun r c hl => (key r c hl).1, fun r c hl => (key r c hl).2.1, fun r c hl => (key r c hl).2.2⟩

theorem step_coh (w : World) (op : Op) (hc : w.Coh) (hinv : w.msk.Inv w.rng)
    (hS : w.msk.structure_.WF ∧ w.msk.structure_.IdsBelow) (hne : w.msk.secrets.NonEmpty) :
    (w.step op).Coh := by
  -- first the secrets move, under the structure the operation found; then the structure, by one edit if at all
  have h1 := hc.chains hinv hS hne (step_chain w op)
  rcases (step_frame w op).struct with e | ⟨e, he⟩
  · exact h1.congr rfl e
  · exact (h1.edit hS he).congr rfl rfl

theorem reachable_coh (w : World) (h : Reachable w) : w.Coh := by
  refine h.induction (fun n k => ?_) fun w op hr hc =>
    step_coh w op hc (reachable_inv w hr) (reachable_struct_wf w hr) (reachable_nonEmpty w hr)
  -- the initial world: `setup` followed by `update_msk` on the empty structure
  exact step_coh ⟨(setup n k).1, (setup n k).2⟩ .update
    ⟨fun _ _ hl => (nomatch hl), fun _ _ hl => (nomatch hl), fun _ _ hl => (nomatch hl)⟩
    (setup_inv n k) empty_wf fun _ _ hm => nomatch hm

/-- **an operation never alters an existing secret of a right**: it removes the right, puts newer secrets in
front, keeps only the newest, or leaves the chain as it is (flags aside) -/
theorem step_secrets (w : World) (hr : Reachable w) (op : Op) (k : Right) (c : List (Bool × Sk))
    (hl : w.msk.secrets.lookup k = some c) :
    (w.step op).msk.secrets.lookup k = none ∨
    ∃ c', (w.step op).msk.secrets.lookup k = some c' ∧
      ((∃ news : List Sk, c'.map (·.2) = news ++ c.map (·.2) ∧ ∀ x ∈ news, w.rng ≤ x.tok) ∨
       c'.map (·.2) = (c.map (·.2)).take 1) := by
  have hcs := step_chain w op k
  rw [hl] at hcs
  generalize (w.step op).msk.secrets.lookup k = new at hcs
  cases hcs with
  | same => exact .inr ⟨c, rfl, .inl ⟨[], rfl, nofun⟩⟩
  | gone => exact .inl rfl
  | born _ t hyb ro hnone =>
    cases c with
    | nil => exact absurd rfl (reachable_nonEmpty w hr k [] (lookup_mem hl))
    | cons a b => cases hnone
  | reflag h0 tl hyb ro hom =>
    refine .inr ⟨_, rfl, .inl ⟨[], ?_, nofun⟩⟩
    rw [reflag_noop (reachable_coh w hr) (reachable_struct_wf w hr) hl hom]; rfl
  | grown c0 news t1 p1 f1 =>
    refine .inr ⟨_, rfl, .inl ⟨news.map (·.2), List.map_append, fun x hx => ?_⟩⟩
    obtain ⟨v, hv, rfl⟩ := List.mem_map.1 hx
    exact (t1 v hv).1
  | pruned c0 => exact .inr ⟨_, rfl, .inr List.map_take⟩

/-- what `update_msk` does to the chain of one right, in the world's own terms -/
theorem update_chain (w : World) (k : Right) :
    updateMsk w.msk w.msk.structure_.omega w.rng = (.error .notPermitted, w.msk, w.rng) ∨
    ∃ n', UpdStep w.msk.structure_.omega k w.rng n' (w.msk.secrets.lookup k)
      ((w.step .update).msk.secrets.lookup k) :=
  (updateMsk_chains w.msk _ (omega_keys_nodup _) w.rng).imp_right fun h => ⟨_, h.2 k⟩

theorem update_keeps_secrets (w : World) (hr : Reachable w) (k : Right) (c : List (Bool × Sk))
    (hl : w.msk.secrets.lookup k = some c) :
    (w.step .update).msk.secrets.lookup k = none ∨
    ∃ c', (w.step .update).msk.secrets.lookup k = some c' ∧ c'.map (·.2) = c.map (·.2) := by
  rcases update_chain w k with e | ⟨_, hs⟩
  · exact .inr ⟨c, by show (updateMsk _ _ _).2.1.secrets.lookup k = _; rw [e]; exact hl, rfl⟩
  rw [hl] at hs
  generalize (w.step .update).msk.secrets.lookup k = o' at hs ⊢
  cases hs with
  | dropped => exact .inl rfl
  | reflag h0 tl hyb ro hm =>
    exact .inr ⟨_, rfl, by
      rw [List.map_cons, List.map_cons, reflag_noop (reachable_coh w hr) (reachable_struct_wf w hr) hl hm]⟩
  | born _ t hyb hnone =>
    cases c with
    | nil => exact absurd rfl (reachable_nonEmpty w hr k [] (lookup_mem hl))
    | cons a b => cases hnone

theorem update_ok_keys (w : World) (k : Right) (hok : (updateMsk w.msk w.msk.structure_.omega w.rng).1 = .ok ())
    (hk : w.msk.structure_.omega.lookup k = none) : (w.step .update).msk.secrets.lookup k = none := by
  rcases update_chain w k with e | ⟨_, hs⟩
  · rw [e] at hok; cases hok
  generalize w.msk.secrets.lookup k = o at hs
  generalize (w.step .update).msk.secrets.lookup k = o' at hs ⊢
  cases hs with
  | dropped => rfl
  | reflag _ _ _ _ hm | born _ _ _ _ hm =>
    exact absurd (List.mem_map.2 ⟨_, hm, rfl⟩) (lookup_eq_none_iff_keys.1 hk)

end CC
