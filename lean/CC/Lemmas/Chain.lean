import CC.Lemmas.Prims
import CC.Lemmas.Frame
import CC.Lemmas.Reach
import CC.Lemmas.Omega
/-! One operation of the authority, seen from everything but the secrets (`step_frame`) and from the chain
of one right (`step_chain`): the two statements through which the history invariants look at `World.step`. -/
namespace CC

theorem step_frame (w : World) (op : Op) : w.msk.Frame w.rng (w.step op).msk (w.step op).rng :=
  World.step_cases (P := fun w w' => w.msk.Frame w.rng w'.msk w'.rng) w op (.refl _ _)
    (fun e _ h => .of_users rfl rfl rfl rfl (Nat.le_refl _) (.inr ⟨e, h⟩))
    (updateMsk_frame _ _ _) (fun _ => rekey_frame _ _ _)
    (fun _ => .secrets _ _ (Nat.le_refl _)) (fun _ => (uskKeygen_side _ _ _).toFrame)
    (fun _ _ => (refresh_side _ _ _ _).toFrame)
    (fun _ => .of_users rfl rfl rfl rfl (Nat.le_add_right _ _) (.inl rfl))

theorem step_rng_mono (w : World) (op : Op) : w.rng ≤ (w.step op).rng := (step_frame w op).rng

/-- how one operation can change the chain of a right (`old`, `new` = lookups before / after);
`n`, `n'` = the counter before / after; `om` = `omega` of the structure before -/
inductive ChainStep (om : List (Right × Bool × Bool)) (k : Right) (n n' : Rng) :
    Option (List (Bool × Sk)) → Option (List (Bool × Sk)) → Prop
  | same (o) : ChainStep om k n n' o o
  | gone (o) : ChainStep om k n n' o none
  | born (o) (t : Nat) (hyb ro : Bool) : o.bind List.head? = none → (k, hyb, ro) ∈ om → n ≤ t → t < n' →
      ChainStep om k n n' o (some [(true, ⟨t, hyb⟩)])
  | reflag (h0 : Bool × Sk) (tl : List (Bool × Sk)) (hyb ro : Bool) : (k, hyb, ro) ∈ om →
      ChainStep om k n n' (some (h0 :: tl)) (some ((!ro, if hyb = true then h0.2 else h0.2.dropHyb) :: tl))
  | grown (c news : List (Bool × Sk)) : (∀ v ∈ news, n ≤ v.2.tok ∧ v.2.tok < n') →
      (news.map (·.2.tok)).Pairwise (· > ·) →
      (∀ v ∈ news, ∀ h0, c.head? = some h0 → v.1 = h0.1 ∧ v.2.hyb = h0.2.hyb) →
      ChainStep om k n n' (some c) (some (news ++ c))
  | pruned (c : List (Bool × Sk)) : ChainStep om k n n' (some c) (some (c.take 1))

theorem UpdStep.chainStep {om : List (Right × Bool × Bool)} {k : Right} {n n' : Rng}
    {o o' : Option (List (Bool × Sk))} (h : UpdStep om k n n' o o') : ChainStep om k n n' o o' := by
  cases h with
  | dropped => exact .gone _
  | reflag h0 tl hyb ro hm => exact .reflag h0 tl hyb ro hm
  | born _ t hyb hn hm h1 h2 => exact .born _ t hyb false hn hm h1 h2

/-- a token already drawn is in the new chain only if it was in the old one … -/
theorem ChainStep.tok_mem_old {om : List (Right × Bool × Bool)} {k : Right} {n n' : Rng}
    {o : Option (List (Bool × Sk))} {c' : List (Bool × Sk)} (h : ChainStep om k n n' o (some c'))
    {v : Bool × Sk} (hv : v ∈ c') (ht : v.2.tok < n) : ∃ c, o = some c ∧ ∃ v0 ∈ c, v0.2.tok = v.2.tok := by
  cases h with
  | same => exact ⟨c', rfl, v, hv, rfl⟩
  | born _ t hyb ro _ _ hge _ => cases List.mem_singleton.1 hv; exact absurd ht (Nat.not_lt.2 hge)
  | reflag h0 tl hyb ro _ =>
    refine ⟨h0 :: tl, rfl, ?_⟩
    rcases List.mem_cons.1 hv with rfl | hv
    · exact ⟨h0, List.mem_cons_self, (reflag_tok hyb h0.2).symm⟩
    · exact ⟨v, List.mem_cons_of_mem _ hv, rfl⟩
  | grown c news hnew _ _ =>
    rcases List.mem_append.1 hv with hv | hv
    · exact absurd ht (Nat.not_lt.2 (hnew v hv).1)
    · exact ⟨c, rfl, v, hv, rfl⟩
  | pruned c => exact ⟨c, rfl, v, List.mem_of_mem_take hv, rfl⟩

/-- … and at its head only if it was at the head of the old one -/
theorem ChainStep.tok_head_old {om : List (Right × Bool × Bool)} {k : Right} {n n' : Rng}
    {o : Option (List (Bool × Sk))} {c' : List (Bool × Sk)} (h : ChainStep om k n n' o (some c'))
    {h' : Bool × Sk} (hh : c'.head? = some h') (ht : h'.2.tok < n) :
    ∃ c h0, o = some c ∧ c.head? = some h0 ∧ h0.2.tok = h'.2.tok := by
  cases h with
  | same => exact ⟨c', h', rfl, hh, rfl⟩
  | born _ t hyb ro _ _ hge _ => cases hh; exact absurd ht (Nat.not_lt.2 hge)
  | reflag h0 tl hyb ro _ => cases hh; exact ⟨h0 :: tl, h0, rfl, rfl, (reflag_tok hyb h0.2).symm⟩
  | grown c news hnew _ _ =>
    cases news with
    | nil => exact ⟨c, h', rfl, hh, rfl⟩
    | cons v vs => cases hh; exact absurd ht (Nat.not_lt.2 (hnew _ List.mem_cons_self).1)
  | pruned c =>
    cases c with
    | nil => cases hh
    | cons a as => cases hh; exact ⟨_, _, rfl, rfl, rfl⟩

theorem step_chain (w : World) (op : Op) (k : Right) :
    ChainStep w.msk.structure_.omega k w.rng (w.step op).rng
      (w.msk.secrets.lookup k) ((w.step op).msk.secrets.lookup k) := by
  refine World.step_cases (P := fun w w' => ChainStep w.msk.structure_.omega k w.rng w'.rng
    (w.msk.secrets.lookup k) (w'.msk.secrets.lookup k)) w op (.same _) (fun _ _ _ => .same _)
    ?_ (fun rights => ?_) (fun rights => ?_) (fun rights => ?_) (fun usk keep => ?_) (fun _ => .same _)
  · rcases updateMsk_chains w.msk _ (omega_keys_nodup _) w.rng with e | ⟨_, h⟩
    · rw [e]; exact .same _
    · exact (h k).chainStep
  · dsimp only
    rcases rekey_cases w.msk rights w.rng with ⟨_, e⟩ | ⟨_, e⟩ <;> rw [e]
    · exact .same _
    · obtain ⟨news, e1, t1, p1, f1⟩ := rekeyLoop_lookup rights w.msk.secrets w.rng k
      rw [e1]
      unfold RevMap.getLatest at f1
      generalize w.msk.secrets.lookup k = o at f1 ⊢
      cases o with
      | none => exact .same _
      | some c => exact .grown c news t1 p1 f1
  · dsimp only
    rw [prune_lookup]
    split
    · cases w.msk.secrets.lookup k with
      | none => exact .same _
      | some c => rw [Option.map_some, RevMap.keepN_one_eq]; exact .pruned c
    · exact .same _
  · dsimp only
    rw [(uskKeygen_side _ _ _).secrets]; exact .same _
  · dsimp only
    rw [(refresh_side _ _ _ _).secrets]; exact .same _

end CC
