import CC.Model.World
/-! Reachability as an induction principle, and one case analysis of `World.step` with the rights of a policy
already resolved. -/
namespace CC

theorem World.init_eq (n : Rng) (k : Nat) :
    World.init n k = World.step ⟨(setup n k).1, (setup n k).2⟩ .update := rfl

theorem Reachable.init (n : Rng) (k : Nat) : Reachable (World.init n k) := ⟨n, k, [], rfl⟩

theorem Reachable.step {w : World} (h : Reachable w) (op : Op) : Reachable (w.step op) := by
  obtain ⟨n, k, ops, rfl⟩ := h
  exact ⟨n, k, ops ++ [op], by rw [List.foldl_append]; rfl⟩

theorem World.foldl_induction {P : World → Prop} (step : ∀ w op, P w → P (w.step op))
    {w : World} (h : P w) (ops : List Op) : P (ops.foldl World.step w) := by
  induction ops generalizing w with
  | nil => exact h
  | cons op ops ih => exact ih (step w op h)

theorem Reachable.foldl_induction {P : World → Prop} (step : ∀ w op, Reachable w → P w → P (w.step op))
    {w : World} (hw : Reachable w) (h : P w) (ops : List Op) : P (ops.foldl World.step w) :=
  (World.foldl_induction (P := fun w => Reachable w ∧ P w)
    (fun w op h => ⟨h.1.step op, step w op h.1 h.2⟩) ⟨hw, h⟩ ops).2

theorem Reachable.steps {w : World} (h : Reachable w) (ops : List Op) :
    Reachable (ops.foldl World.step w) :=
  Reachable.foldl_induction (P := Reachable) (fun _ op hw _ => hw.step op) h h ops

/-- the step may use reachability itself -/
theorem Reachable.induction {P : World → Prop} (init : ∀ n k, P (World.init n k))
    (step : ∀ w op, Reachable w → P w → P (w.step op)) {w : World} (h : Reachable w) : P w := by
  obtain ⟨n, k, ops, rfl⟩ := h
  exact Reachable.foldl_induction step (.init n k) (init n k) ops

/-- `P w w'` holds for every operation once it holds when nothing happens and for each of the seven
primitives on arbitrary rights (the failing lookup of a policy's rights set aside) -/
theorem World.step_cases {P : World → World → Prop} (w : World) (op : Op) (same : P w w)
    (edit : ∀ e s, w.msk.structure_.apply e = .ok s → P w { w with msk := { w.msk with structure_ := s } })
    (update : P w ⟨(updateMsk w.msk w.msk.structure_.omega w.rng).2.1,
      (updateMsk w.msk w.msk.structure_.omega w.rng).2.2⟩)
    (rekey : ∀ rights, P w ⟨(rekey w.msk rights w.rng).2.1, (rekey w.msk rights w.rng).2.2⟩)
    (prune : ∀ rights, P w ⟨prune w.msk rights, w.rng⟩)
    (keygen : ∀ rights, P w ⟨(uskKeygen w.msk rights w.rng).2.1, (uskKeygen w.msk rights w.rng).2.2⟩)
    (refresh : ∀ usk keep, P w ⟨(refresh w.msk usk keep w.rng).2.1, (refresh w.msk usk keep w.rng).2.2.2⟩)
    (draw : ∀ k, P w { w with rng := w.rng + k }) : P w (w.step op) := by
  cases op <;> simp only [World.step]
  · split
    · exact edit _ _ ‹_›
    · exact same
  · exact update
  · split
    · exact same
    · exact rekey _
  · split
    · exact same
    · exact prune _
  · split
    · exact same
    · exact keygen _
  · exact refresh _ _
  · exact draw _

end CC
