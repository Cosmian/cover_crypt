import CC.Lemmas.RevMap
/-! `rekey`, `prune`, `update_msk`: one induction principle per loop; `rekey` / `update_msk` as a whole (`*_cases`:
refused with nothing touched, or validated and the loop run to its end); then the closed forms of what the loops
and `prune` do to the chain of one right (`updateLoop_lookup_*`, `rekeyLoop_lookup`, `prune_lookup`, and for
`update_msk` as a whole `UpdStep` / `updateMsk_chains`). -/
namespace CC

/-- a failing iteration stops the loop and changes nothing -/
theorem rekeyLoop_ind {P : RevMap → Rng → Prop} (rights : List Right) (secrets : RevMap) (n : Rng)
    (hstep : ∀ s m r act sk, r ∈ rights → s.getLatest r = some (act, sk) → P s m →
      P (s.insert r (act, ⟨m, sk.hyb⟩)) (m + 1))
    (h : P secrets n) : P (rekeyLoop secrets rights n).2.1 (rekeyLoop secrets rights n).2.2 := by
  induction rights generalizing secrets n with
  | nil => exact h
  | cons r rest ih =>
    have hrest := fun s m r' act sk hr' => hstep s m r' act sk (List.mem_cons_of_mem r hr')
    unfold rekeyLoop
    split
    · split
      · exact h
      · rename_i act sk hg
        exact ih _ _ hrest (hstep _ _ r act sk List.mem_cons_self hg h)
    · exact h

theorem rekeyLoop_mono (rights : List Right) (secrets : RevMap) (n : Rng) :
    n ≤ (rekeyLoop secrets rights n).2.2 :=
  rekeyLoop_ind (P := fun _ m => n ≤ m) rights secrets n (fun _ _ _ _ _ _ _ h => Nat.le_succ_of_le h)
    (Nat.le_refl n)

theorem rekeyLoop_lookup_other (rights : List Right) (secrets : RevMap) (n : Rng) {k : Right} (hk : k ∉ rights) :
    (rekeyLoop secrets rights n).2.1.lookup k = secrets.lookup k :=
  rekeyLoop_ind (P := fun s _ => s.lookup k = secrets.lookup k) rights secrets n
    (fun s _ r _ _ hr _ h => by
      rw [RevMap.lookup_insert, if_neg (by exact fun e => hk (eq_of_beq e ▸ hr))]; exact h) rfl

theorem rekeyLoop_latest (secrets : RevMap) (rights : List Right) (n : Rng) (k : Right) :
    ((rekeyLoop secrets rights n).2.1.getLatest k).map (fun v => (v.1, v.2.hyb)) =
      (secrets.getLatest k).map (fun v => (v.1, v.2.hyb)) :=
  rekeyLoop_ind
    (P := fun s _ => (s.getLatest k).map (fun v => (v.1, v.2.hyb)) = (secrets.getLatest k).map (fun v => (v.1, v.2.hyb)))
    rights secrets n
    (fun s _ r act sk _ hg h => by
      rw [RevMap.getLatest_insert]
      split
      · rename_i hk; rw [← h, eq_of_beq hk, hg]; rfl
      · exact h) rfl

theorem rekeyLoop_ok (secrets : RevMap) (rights : List Right) (n : Rng)
    (h : ∀ r ∈ rights, (secrets.getLatest r).isSome) : (rekeyLoop secrets rights n).1 = .ok () := by
  induction rights generalizing secrets n with
  | nil => rfl
  | cons r rest ih =>
    obtain ⟨⟨act, sk⟩, hg⟩ := Option.isSome_iff_exists.1 (h r List.mem_cons_self)
    unfold rekeyLoop
    rw [if_pos (RevMap.containsKey_of_getLatest hg), hg]
    exact ih _ _ fun r' hr' => RevMap.isSome_getLatest_insert _ _ (h r' (List.mem_cons_of_mem _ hr'))

/-- **`rekey`, as a whole**: refused without touching anything, or its loop runs to its end -/
theorem rekey_cases (msk : Msk) (rights : List Right) (n : Rng) :
    ((∃ r ∈ rights, msk.secrets.getLatest r = none) ∧ rekey msk rights n = (.error .notPermitted, msk, n)) ∨
    ((∀ r ∈ rights, (msk.secrets.getLatest r).isSome = true) ∧ rekey msk rights n =
      (.ok (), { msk with secrets := (rekeyLoop msk.secrets rights n).2.1 }, (rekeyLoop msk.secrets rights n).2.2)) := by
  unfold rekey
  split
  · rename_i hv
    obtain ⟨r, hr, hn⟩ := List.any_eq_true.1 hv
    exact .inl ⟨⟨r, hr, Option.isNone_iff_eq_none.1 hn⟩, rfl⟩
  · rename_i hv
    have hall : ∀ r ∈ rights, (msk.secrets.getLatest r).isSome = true := fun r hr =>
      Option.isSome_iff_ne_none.2 fun hn => hv (List.any_eq_true.2 ⟨r, hr, Option.isNone_iff_eq_none.2 hn⟩)
    refine .inr ⟨hall, ?_⟩
    rw [← rekeyLoop_ok msk.secrets rights n hall]

theorem rekey_latest (msk : Msk) (rights : List Right) (n : Rng) (k : Right) :
    ((rekey msk rights n).2.1.secrets.getLatest k).map (fun v => (v.1, v.2.hyb)) =
      (msk.secrets.getLatest k).map (fun v => (v.1, v.2.hyb)) := by
  rcases rekey_cases msk rights n with ⟨_, e⟩ | ⟨_, e⟩ <;> rw [e]
  exact rekeyLoop_latest msk.secrets rights n k

theorem rekeyLoop_fresh (secrets : RevMap) (rights : List Right) (n : Rng) (r : Right) (hr : r ∈ rights)
    (hall : ∀ r ∈ rights, (secrets.getLatest r).isSome) :
    ∃ act sk, (rekeyLoop secrets rights n).2.1.getLatest r = some (act, sk) ∧ n ≤ sk.tok := by
  induction rights generalizing secrets n with
  | nil => cases hr
  | cons x xs ih =>
    obtain ⟨⟨act, sk⟩, hg⟩ := Option.isSome_iff_exists.1 (hall x List.mem_cons_self)
    unfold rekeyLoop
    rw [if_pos (RevMap.containsKey_of_getLatest hg), hg]
    by_cases hin : r ∈ xs
    · obtain ⟨a, s, h1, h2⟩ := ih (secrets.insert x (act, ⟨n, sk.hyb⟩)) (n + 1) hin
        fun r' hr' => RevMap.isSome_getLatest_insert _ _ (hall r' (List.mem_cons_of_mem _ hr'))
      exact ⟨a, s, h1, Nat.le_of_succ_le h2⟩
    · -- the remaining rights do not touch `r`: its newest secret is the one just inserted
      cases (List.mem_cons.1 hr).resolve_right hin
      refine ⟨act, ⟨n, sk.hyb⟩, ?_, Nat.le_refl n⟩
      unfold RevMap.getLatest
      rw [rekeyLoop_lookup_other xs _ _ hin, ← RevMap.getLatest, RevMap.getLatest_insert, if_pos (beq_self_eq_true r)]

theorem prune_ind {P : RevMap → Prop} (msk : Msk) (rights : List Right)
    (hstep : ∀ s r, P s → P (s.keep r 1)) (h : P msk.secrets) : P (prune msk rights).secrets := by
  show P (rights.foldl (fun s r => s.keep r 1) msk.secrets)
  generalize msk.secrets = s at h
  induction rights generalizing s with
  | nil => exact h
  | cons r rest ih => exact ih _ (hstep s r h)

theorem prune_latest (msk : Msk) (rights : List Right) (k : Right) :
    (prune msk rights).secrets.getLatest k = msk.secrets.getLatest k :=
  prune_ind (P := fun s => s.getLatest k = msk.secrets.getLatest k) msk rights
    (fun s r h => (RevMap.getLatest_keep_one s r k).trans h) rfl

theorem reflag_tok (hyb : Bool) (sk : Sk) : (if hyb = true then sk else sk.dropHyb).tok = sk.tok := by
  split <;> rfl

/-- the induction principle of `update_msk`'s loop, for a run that succeeds -/
theorem updateLoop_ind {P : RevMap → Rng → Prop} (rights : List (Right × Bool × Bool)) (secrets : RevMap)
    (n : Rng) (s' : RevMap)
    (hset : ∀ s m r hyb ro a sk, (r, hyb, ro) ∈ rights → s.getLatest r = some (a, sk) → P s m →
      P (s.setLatest r (!ro, if hyb then sk else sk.dropHyb)) m)
    (hins : ∀ s m r hyb, (r, hyb, false) ∈ rights → s.getLatest r = none → P s m →
      P (s.insert r (true, ⟨m, hyb⟩)) (m + 1))
    (h : P secrets n) (hs : (updateLoop secrets rights n).1 = .ok s') :
    P s' (updateLoop secrets rights n).2 := by
  induction rights generalizing secrets n with
  | nil => cases hs; exact h
  | cons p rest ih =>
    obtain ⟨r, hyb, ro⟩ := p
    have hset' := fun s m r' hyb' ro' a sk hm => hset s m r' hyb' ro' a sk (List.mem_cons_of_mem _ hm)
    have hins' := fun s m r' hyb' hm => hins s m r' hyb' (List.mem_cons_of_mem _ hm)
    unfold updateLoop at hs ⊢
    split at hs
    · rename_i a sk hg
      exact ih _ _ hset' hins' (hset _ _ r hyb ro a sk List.mem_cons_self hg h) hs
    · rename_i hg
      cases ro with
      | true => cases hs
      | false => exact ih _ _ hset' hins' (hins _ _ r hyb List.mem_cons_self hg h) hs

theorem updateLoop_mono : ∀ (rights : List (Right × Bool × Bool)) (secrets : RevMap) (n : Rng),
    n ≤ (updateLoop secrets rights n).2
  | [], _, n => Nat.le_refl n
  | (r, hyb, ro) :: rest, secrets, n => by
    unfold updateLoop
    split
    · exact updateLoop_mono rest _ n
    · split
      · exact Nat.le_refl n
      · exact Nat.le_trans (Nat.le_succ n) (updateLoop_mono rest _ (n + 1))

theorem updateLoop_ok (secrets : RevMap) (rights : List (Right × Bool × Bool)) (n : Rng)
    (h : ∀ p ∈ rights, p.2.2 = true → (secrets.getLatest p.1).isSome) :
    ∃ s, (updateLoop secrets rights n).1 = .ok s := by
  induction rights generalizing secrets n with
  | nil => exact ⟨secrets, rfl⟩
  | cons p rest ih =>
    obtain ⟨r, hyb, ro⟩ := p
    have hrest := fun p hp => h p (List.mem_cons_of_mem _ hp)
    unfold updateLoop
    split
    · exact ih _ _ fun p hp hro => RevMap.isSome_getLatest_setLatest _ _ (hrest p hp hro)
    · rename_i hg
      cases ro with
      | true => have := h _ List.mem_cons_self rfl; rw [hg] at this; cases this
      | false => exact ih _ _ fun p hp hro => RevMap.isSome_getLatest_insert _ _ (hrest p hp hro)

/-- **`update_msk`, as a whole**: refused, nothing touched, when a listed right would be born read-only;
otherwise the unlisted rights go and the loop cannot fail (the error branch behind it is dead) -/
theorem updateMsk_cases (msk : Msk) (rights : List (Right × Bool × Bool)) (n : Rng) :
    ((∃ p ∈ rights, p.2.2 = true ∧ msk.secrets.getLatest p.1 = none) ∧
      updateMsk msk rights n = (.error .notPermitted, msk, n)) ∨
    ((∀ p ∈ rights, p.2.2 = true → (msk.secrets.getLatest p.1).isSome = true) ∧
      ∃ s, (updateLoop (msk.secrets.retain fun r => (rights.lookup r).isSome) rights n).1 = .ok s ∧
        updateMsk msk rights n = (.ok (), { msk with secrets := s },
          (updateLoop (msk.secrets.retain fun r => (rights.lookup r).isSome) rights n).2)) := by
  unfold updateMsk
  split
  · rename_i hv
    obtain ⟨p, hp, hc⟩ := List.any_eq_true.1 hv
    obtain ⟨hro, hn⟩ := Bool.and_eq_true_iff.1 hc
    exact .inl ⟨⟨p, hp, hro, Option.isNone_iff_eq_none.1 hn⟩, rfl⟩
  · rename_i hv
    have hall : ∀ p ∈ rights, p.2.2 = true → (msk.secrets.getLatest p.1).isSome = true := fun p hp hro =>
      Option.isSome_iff_ne_none.2 fun hn =>
        hv (List.any_eq_true.2 ⟨p, hp, Bool.and_eq_true_iff.2 ⟨hro, Option.isNone_iff_eq_none.2 hn⟩⟩)
    obtain ⟨s, hs⟩ := updateLoop_ok (msk.secrets.retain fun r => (rights.lookup r).isSome) rights n
      fun p hp hro => by
        rw [RevMap.getLatest_retain, if_pos (lookup_isSome_iff_keys.2 (List.mem_map.2 ⟨p, hp, rfl⟩))]
        exact hall p hp hro
    refine .inr ⟨hall, s, hs, ?_⟩
    dsimp only
    rw [← Prod.eta (updateLoop _ rights n), hs]

theorem updateLoop_lookup_other (rights : List (Right × Bool × Bool)) (secrets : RevMap) (n : Rng) (s : RevMap)
    (hs : (updateLoop secrets rights n).1 = .ok s) (k : Right) (hk : k ∉ rights.map (·.1)) :
    s.lookup k = secrets.lookup k := by
  have hne : ∀ r hyb ro, (r, hyb, ro) ∈ rights → ¬ (k == r) = true := fun r hyb ro hm e =>
    hk (List.mem_map.2 ⟨_, hm, (eq_of_beq e).symm⟩)
  exact updateLoop_ind (P := fun s _ => s.lookup k = secrets.lookup k) rights secrets n s
    (fun _ _ r hyb ro _ _ hm _ h => by rw [RevMap.lookup_setLatest, if_neg (hne r hyb ro hm)]; exact h)
    (fun _ _ r hyb hm _ h => by rw [RevMap.lookup_insert, if_neg (hne r hyb _ hm)]; exact h) rfl hs

/-- what the loop does to a listed right: the head of an existing chain is re-flagged as the structure dictates;
a right without a secret (then not read-only) gets a chain of one fresh, activated secret -/
theorem updateLoop_lookup_mem : ∀ (rights : List (Right × Bool × Bool)) (secrets : RevMap) (n : Rng) (s : RevMap),
    (rights.map (·.1)).Nodup → (updateLoop secrets rights n).1 = .ok s →
    ∀ r hyb ro, (r, hyb, ro) ∈ rights →
      (∃ h0 t, secrets.lookup r = some (h0 :: t) ∧
        s.lookup r = some ((!ro, if hyb = true then h0.2 else h0.2.dropHyb) :: t)) ∨
      (secrets.getLatest r = none ∧ ro = false ∧ ∃ n', n ≤ n' ∧ n' < (updateLoop secrets rights n).2 ∧
        s.lookup r = some [(true, ⟨n', hyb⟩)]) := by
  intro rights
  induction rights with
  | nil => intro _ _ _ _ _ _ _ _ hm; cases hm
  | cons p rest ih =>
    obtain ⟨r0, hyb0, ro0⟩ := p
    intro secrets n s hnd h r hyb ro hm
    rw [List.map_cons, List.nodup_cons] at hnd
    -- the listed rights are distinct: a right in `rest` is not `r0`, and `rest` does not touch `r0`
    have hne : (r, hyb, ro) ∈ rest → ¬ (r == r0) = true := fun hrest e =>
      hnd.1 (eq_of_beq e ▸ List.mem_map.2 ⟨_, hrest, rfl⟩)
    unfold updateLoop at h ⊢
    cases hg : secrets.getLatest r0 with
    | some v =>
      rw [hg] at h
      rcases List.mem_cons.1 hm with heq | hrest
      · cases heq
        obtain ⟨t, hl⟩ := RevMap.getLatest_eq_some_iff.1 hg
        refine .inl ⟨v, t, hl, ?_⟩
        rw [updateLoop_lookup_other _ _ _ _ h r0 hnd.1, RevMap.lookup_setLatest, if_pos (beq_self_eq_true r0), hl]
        rfl
      · have := ih _ _ s hnd.2 h r hyb ro hrest
        rwa [RevMap.lookup_setLatest, RevMap.getLatest_setLatest, if_neg (hne hrest), if_neg (hne hrest)] at this
    | none =>
      rw [hg] at h
      cases ro0 with
      | true => cases h
      | false =>
        rcases List.mem_cons.1 hm with heq | hrest
        · cases heq
          refine .inr ⟨hg, rfl, n, Nat.le_refl n,
            Nat.lt_of_lt_of_le (Nat.lt_succ_self n) (updateLoop_mono rest _ _), ?_⟩
          rw [updateLoop_lookup_other _ _ _ _ h r0 hnd.1, RevMap.lookup_insert, if_pos (beq_self_eq_true r0),
            RevMap.getLatest_eq_none_iff.1 hg]
        · rcases ih _ _ s hnd.2 h r hyb ro hrest with hA | ⟨h1, hf, n', h2, h3, h4⟩
          · left; rwa [RevMap.lookup_insert, if_neg (hne hrest)] at hA
          · rw [RevMap.getLatest_insert, if_neg (hne hrest)] at h1
            exact .inr ⟨h1, hf, n', Nat.le_of_succ_le h2, h3, h4⟩

/-- after the loop of `update_msk` every listed right carries the flag the structure dictates -/
theorem updateLoop_flag : ∀ (rights : List (Right × Bool × Bool)) (secrets : RevMap) (n : Rng) (s : RevMap),
    (rights.map (·.1)).Nodup → (updateLoop secrets rights n).1 = .ok s →
    ∀ r hyb ro, (r, hyb, ro) ∈ rights → ∃ sk, s.getLatest r = some (!ro, sk) := by
  intro rights secrets n s hnd h r hyb ro hm
  unfold RevMap.getLatest
  -- an existing chain is re-flagged; a new one is born activated, and only for a right that is not read-only
  rcases updateLoop_lookup_mem rights secrets n s hnd h r hyb ro hm with ⟨h0, t, -, h2⟩ | ⟨-, rfl, n', -, -, h2⟩
  · exact ⟨_, by rw [h2]; rfl⟩
  · exact ⟨_, by rw [h2]; rfl⟩

/-- `rekey`'s loop prepends new secrets to a chain — fresh tokens, strictly decreasing, flag and flavour of
the previous newest secret — and changes nothing else -/
theorem rekeyLoop_lookup (rights : List Right) (secrets : RevMap) (n : Rng) (k : Right) :
    ∃ news : List (Bool × Sk),
      (rekeyLoop secrets rights n).2.1.lookup k = (secrets.lookup k).map (news ++ ·) ∧
      (∀ v ∈ news, n ≤ v.2.tok ∧ v.2.tok < (rekeyLoop secrets rights n).2.2) ∧
      (news.map (·.2.tok)).Pairwise (· > ·) ∧
      (∀ v ∈ news, ∀ h0, secrets.getLatest k = some h0 → v.1 = h0.1 ∧ v.2.hyb = h0.2.hyb) := by
  refine (rekeyLoop_ind (P := fun s m => n ≤ m ∧ ∃ news : List (Bool × Sk),
      s.lookup k = (secrets.lookup k).map (news ++ ·) ∧ (∀ v ∈ news, n ≤ v.2.tok ∧ v.2.tok < m) ∧
      (news.map (·.2.tok)).Pairwise (· > ·) ∧
      (∀ v ∈ news, ∀ h0, secrets.getLatest k = some h0 → v.1 = h0.1 ∧ v.2.hyb = h0.2.hyb)) rights secrets n ?_
    ⟨Nat.le_refl n, [], by cases secrets.lookup k <;> rfl, nofun, .nil, nofun⟩).2
  rintro s m r act sk - hg ⟨hnm, news, e, t, p, f⟩
  refine ⟨Nat.le_succ_of_le hnm, ?_⟩
  by_cases hk : (k == r) = true
  · cases eq_of_beq hk
    unfold RevMap.getLatest at hg f ⊢
    rw [e] at hg
    generalize secrets.lookup k = o at hg e f ⊢
    cases o with
    | none => cases hg
    | some c =>
      refine ⟨(act, ⟨m, sk.hyb⟩) :: news, ?_, ?_, ?_, ?_⟩
      · rw [RevMap.lookup_insert, if_pos hk, e]; rfl
      · rintro v (_ | ⟨_, hv⟩)
        · exact ⟨hnm, Nat.lt_succ_self m⟩
        · exact ⟨(t v hv).1, Nat.lt_succ_of_lt (t v hv).2⟩
      · exact List.pairwise_cons.2 ⟨fun a ha => by obtain ⟨v, hv, rfl⟩ := List.mem_map.1 ha; exact (t v hv).2, p⟩
      · rintro v (_ | ⟨_, hv⟩) h0 hh0
        · -- the newest secret before this rotation is the head of `news`, or the original newest
          cases news with
          | nil => cases hg.symm.trans hh0; exact ⟨rfl, rfl⟩
          | cons v vs => cases hg; exact f _ List.mem_cons_self h0 hh0
        · exact f v hv h0 hh0
  · refine ⟨news, ?_, fun v hv => ⟨(t v hv).1, Nat.lt_succ_of_lt (t v hv).2⟩, p, f⟩
    rw [RevMap.lookup_insert, if_neg hk, e]

theorem prune_lookup (msk : Msk) (rights : List Right) (k : Right) :
    (prune msk rights).secrets.lookup k =
      if k ∈ rights then (msk.secrets.lookup k).map (RevMap.keepN 1) else msk.secrets.lookup k := by
  unfold prune
  generalize msk.secrets = s
  induction rights generalizing s with
  | nil => rfl
  | cons r rest ih =>
    rw [List.foldl_cons, ih, RevMap.lookup_keep]
    by_cases hkr : (k == r) = true
    · cases eq_of_beq hkr
      rw [if_pos hkr, if_pos List.mem_cons_self]
      split
      · cases s.lookup k with
        | none => rfl
        | some c => simp only [Option.map_some, RevMap.keepN_one_eq, List.take_take, Nat.min_self]
      · rfl
    · have hne : k ≠ r := fun e => hkr (beq_iff_eq.2 e)
      rw [if_neg hkr]
      simp only [List.mem_cons, hne, false_or]

/-- what a successful `update_msk` does to the chain of the right `k` (`o`, `o'` = lookups before
and after; `n`, `n'` = the counter before and after; `o.bind List.head? = none` is `getLatest k = none`
unfolded: no chain, or an empty one) -/
inductive UpdStep (rights : List (Right × Bool × Bool)) (k : Right) (n n' : Rng) :
    Option (List (Bool × Sk)) → Option (List (Bool × Sk)) → Prop
  | dropped (o) : rights.lookup k = none → UpdStep rights k n n' o none
  | reflag (h0 : Bool × Sk) (tl : List (Bool × Sk)) (hyb ro : Bool) : (k, hyb, ro) ∈ rights →
      UpdStep rights k n n' (some (h0 :: tl)) (some ((!ro, if hyb = true then h0.2 else h0.2.dropHyb) :: tl))
  | born (o) (t : Nat) (hyb : Bool) : o.bind List.head? = none → (k, hyb, false) ∈ rights → n ≤ t → t < n' →
      UpdStep rights k n n' o (some [(true, ⟨t, hyb⟩)])

theorem updateMsk_chains (msk : Msk) (rights : List (Right × Bool × Bool)) (hnd : (rights.map (·.1)).Nodup) (n : Rng) :
    updateMsk msk rights n = (.error .notPermitted, msk, n) ∨
    ((updateMsk msk rights n).1 = .ok () ∧ ∀ k, UpdStep rights k n (updateMsk msk rights n).2.2
      (msk.secrets.lookup k) ((updateMsk msk rights n).2.1.secrets.lookup k)) := by
  rcases updateMsk_cases msk rights n with ⟨_, e⟩ | ⟨_, s, hu, e⟩
  · exact .inl e
  refine .inr ⟨by rw [e], fun k => ?_⟩
  rw [e]
  cases hl : rights.lookup k with
  | none =>
    rw [updateLoop_lookup_other _ _ _ _ hu k (lookup_eq_none_iff_keys.1 hl), RevMap.lookup_retain, hl]
    exact .dropped _ hl
  | some fl =>
    obtain ⟨hyb, ro⟩ := fl
    have hm := lookup_mem hl
    have hret : (msk.secrets.retain fun r => (rights.lookup r).isSome).lookup k = msk.secrets.lookup k := by
      rw [RevMap.lookup_retain, hl]; rfl
    rcases updateLoop_lookup_mem _ _ _ _ hnd hu k hyb ro hm with ⟨h0, t, h1, h2⟩ | ⟨h1, rfl, t, h2, h3, h4⟩
    · rw [hret] at h1; rw [h1, h2]; exact .reflag h0 t hyb ro hm
    · unfold RevMap.getLatest at h1
      rw [hret] at h1; rw [h4]
      exact .born _ t hyb h1 hm h2 h3

end CC
