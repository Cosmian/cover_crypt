import CC.Lemmas.Cover
/-! Renaming an attribute: the name-level order relation of its dimension is the same under the
new name, and so is the attribute every name denotes. -/
namespace CC

theorem findIdx_map_rename (l : List (String × Attr)) (o n x : String)
    (hn : ∀ p ∈ l, p.1 ≠ n) (hx : x ≠ n) :
    (l.map (fun p => if p.1 == o then (n, p.2) else p)).findIdx (fun p => p.1 == renName o n x) =
      l.findIdx (fun p => p.1 == x) := by
  rw [map_rename_eq]
  induction l with
  | nil => rfl
  | cons p t ih =>
    have key : (renName o n p.1 == renName o n x) = (p.1 == x) := by
      rw [Bool.eq_iff_iff, beq_iff_eq, beq_iff_eq, renName_inj (hn p List.mem_cons_self) hx]
    simp only [List.map_cons, List.findIdx_cons, key, ih fun q hq => hn q (List.mem_cons_of_mem _ hq)]

theorem rename_mem (d d' : Dim) (o n : String) (h : d.renameAttribute o n = .ok d') (z : String) (b : Attr)
    (hb : (z, b) ∈ d.attrs) (hnd : (d.attrs.map (·.1)).Nodup) : (renName o n z, b) ∈ d'.attrs :=
  (Dim.renameAttribute_perm hnd h).1.mem_iff.2 (List.mem_map.2 ⟨(z, b), hb, rfl⟩)

theorem leq_rename (d d' : Dim) (o n : String) (hnd : (d.attrs.map (·.1)).Nodup)
    (h : d.renameAttribute o n = .ok d') (x y : String)
    (hx : ∃ a, (x, a) ∈ d.attrs) (hy : ∃ a, (y, a) ∈ d.attrs) :
    Spec.leq d' (renName o n x) (renName o n y) = Spec.leq d x y := by
  have hn := (Dim.renameAttribute_perm hnd h).2
  have fresh : ∀ {z}, (∃ a, (z, a) ∈ d.attrs) → z ≠ n := fun ⟨a, ha⟩ e => hn (List.mem_map.2 ⟨_, ha, e⟩)
  have ex : ∀ {z}, (∃ a, (z, a) ∈ d.attrs) → ∃ a, (renName o n z, a) ∈ d'.attrs :=
    fun ⟨a, ha⟩ => ⟨a, rename_mem d d' o n h _ a ha hnd⟩
  obtain ⟨a, -, -, rfl⟩ := Dim.renameAttribute_ok.1 h
  rw [Bool.eq_iff_iff, leq_iff, leq_iff]
  simp only [ex hx, ex hy, hx, hy, true_and]
  cases d.ordered <;> simp only [if_true, Bool.false_eq_true]
  · -- anarchy: names are equal iff their new versions are
    exact renName_inj (fresh hx) (fresh hy)
  · -- hierarchy: the list is renamed in place, so positions are kept
    have hfr := fun p hp e => hn (List.mem_map.2 ⟨p, hp, e⟩)
    rw [findIdx_map_rename d.attrs o n x hfr (fresh hx), findIdx_map_rename d.attrs o n y hfr (fresh hy)]

/-- the qualified attribute under its new name -/
def renQA (dn o n : String) (q : QA) : QA := if q.dim = dn then ⟨dn, renName o n q.name⟩ else q

theorem renQA_dim (dn o n : String) (q : QA) : (renQA dn o n q).dim = q.dim := by
  unfold renQA; split
  · rename_i h; exact h.symm
  · rfl

theorem getAttribute_rename {s s' : Struct} (hS : s.WF) {dn o n : String}
    (h : s.renameAttribute dn o n = .ok s') {q : QA} {a : Attr} (ha : s.getAttribute q = .ok a) :
    s'.getAttribute (renQA dn o n q) = .ok a := by
  obtain ⟨d, d', hdl, hf, rfl⟩ := Struct.onDim_spec h
  obtain ⟨d0, hd0, hl0⟩ := getAttribute_ok_iff.1 ha
  rw [getAttribute_ok_iff]
  unfold renQA
  by_cases hq : q.dim = dn
  · rw [hq, hdl] at hd0; cases hd0
    have hnd := hS.names _ (lookup_mem hdl)
    rw [if_pos hq]
    refine ⟨d', lookup_areplace_self hdl, ?_⟩
    rw [lookup_eq_some_iff_mem ((Dim.renameAttribute_step 0 0 hf).names hnd)]
    exact rename_mem d d' o n hf _ a (lookup_mem hl0) hnd
  · rw [if_neg hq]
    exact ⟨d0, (lookup_areplace_other hq).trans hd0, hl0⟩

theorem mapM_getAttribute_rename {s s' : Struct} (hS : s.WF) (hb : s.IdsBelow) {dn o n : String}
    (h : s.renameAttribute dn o n = .ok s') : ∀ {ε : List QA} {eas : List Attr},
    mapMExcept s.getAttribute ε = .ok eas → mapMExcept s'.getAttribute (ε.map (renQA dn o n)) = .ok eas := by
  intro ε eas he
  rw [mapMExcept_eq_ok, List.map_map, ← mapMExcept_eq_ok.1 he]
  refine List.map_congr_left fun q hq => ?_
  obtain ⟨a, _, ha⟩ := mapMExcept_of_mem he hq
  rw [ha]
  exact getAttribute_rename hS h ha

/-- the name-level cover relation between two clauses is the same before the rename and, with the
new names, after it -/
theorem coversClause_rename {s s' : Struct} (hS : s.WF) {dn o n : String}
    (h : s.renameAttribute dn o n = .ok s') {cl ε : List QA}
    (hkc : Spec.clauseKnown s cl = true) (hkε : Spec.clauseKnown s ε = true) :
    Spec.coversClause s' (cl.map (renQA dn o n)) (ε.map (renQA dn o n)) = Spec.coversClause s cl ε := by
  obtain ⟨d, d', hdl, hf, rfl⟩ := Struct.onDim_spec h
  have hex : ∀ {c : List QA}, Spec.clauseKnown s c = true → ∀ q ∈ c, q.dim = dn → ∃ a, (q.name, a) ∈ d.attrs := by
    intro c hk q hq hqd
    obtain ⟨d0, b, hd0, hb⟩ := clauseKnown_iff.1 hk q hq
    rw [hqd, hdl] at hd0; cases hd0
    exact ⟨b, hb⟩
  unfold Spec.coversClause
  rw [List.all_map]
  refine all_congr_mem fun qx hqx => ?_
  rw [Function.comp, List.all_map]
  refine all_congr_mem fun qy hqy => ?_
  simp only [Function.comp, renQA_dim]
  by_cases hdim : qy.dim = qx.dim
  · simp only [hdim, bne_self_eq_false]
    by_cases hx : qx.dim = dn
    · -- both attributes live in the renamed dimension
      have hy : qy.dim = dn := hdim.trans hx
      rw [hx, lookup_areplace_self hdl, hdl]
      simp only [renQA, hx, hy]
      exact leq_rename d d' o n (hS.names _ (lookup_mem hdl)) hf qx.name qy.name
        (hex hkε qx hqx hx) (hex hkc qy hqy hy)
    · have hy : ¬ qy.dim = dn := fun hh => hx (hdim ▸ hh)
      rw [lookup_areplace_other hx]
      simp only [renQA, hx, hy, if_false]
  · rw [bne_iff_ne.2 hdim, Bool.true_or, Bool.true_or]

end CC
