import CC.Lemmas.Coh
import CC.Lemmas.Refresh
/-! Contiguity of user chains inside master chains: why a key refreshed with `keep old secrets` still opens
what it could open before. -/
namespace CC

/-- the part of the user chain `u` the master key still holds (`b`) is a contiguous segment of the master
chain `m` and the front of `u`; the rest of `u` (`d`) is unknown to the master key (pruned since) -/
def Compat (m u : List Sk) : Prop :=
  ∃ a b e d, m = a ++ b ++ e ∧ u = b ++ d ∧ ∀ x ∈ d, x ∉ m

theorem Compat.of_prefix {m u : List Sk} (h : u <+: m) : Compat m u := by
  obtain ⟨e, rfl⟩ := h
  exact ⟨[], u, e, [], rfl, (List.append_nil u).symm, nofun⟩

theorem Compat.of_disjoint {m u : List Sk} (h : ∀ x ∈ u, x ∉ m) : Compat m u :=
  ⟨m, [], [], u, by rw [List.append_nil, List.append_nil], rfl, h⟩

theorem Compat.append_fresh {m u : List Sk} (h : Compat m u) (news : List Sk) (hn : ∀ x ∈ news, x ∉ u) :
    Compat (news ++ m) u := by
  obtain ⟨a, b, e, d, rfl, rfl, hd⟩ := h
  refine ⟨news ++ a, b, e, d, by simp only [List.append_assoc], rfl, fun x hx hm => ?_⟩
  rcases List.mem_append.1 hm with h1 | h1
  · exact hn x h1 (List.mem_append_right _ hx)
  · exact hd x hx h1

theorem Compat.take_one {m u : List Sk} (hnd : m.Nodup) (h : Compat m u) : Compat (m.take 1) u := by
  obtain ⟨a, b, e, d, rfl, rfl, hd⟩ := h
  -- the master key keeps its newest secret `x` only; `x` is in `u` only as its head, when nothing is newer
  cases a with
  | cons x a =>
    refine .of_disjoint fun y hy hyx => ?_
    cases List.mem_singleton.1 hyx
    rw [List.cons_append, List.cons_append, List.nodup_cons] at hnd
    rcases List.mem_append.1 hy with hb | hd'
    · exact hnd.1 (List.mem_append_left _ (List.mem_append_right _ hb))
    · exact hd x hd' List.mem_cons_self
  | nil =>
    cases b with
    | nil => exact .of_disjoint fun y hy hym => hd y hy (List.take_subset 1 _ hym)
    | cons x b =>
      refine ⟨[], [x], [], b ++ d, rfl, rfl, fun y hy hyx => ?_⟩
      cases List.mem_singleton.1 hyx
      rw [List.nil_append, List.cons_append, List.nodup_cons] at hnd
      rcases List.mem_append.1 hy with hb | hd'
      · exact hnd.1 (List.mem_append_left _ hb)
      · exact hd x hd' List.mem_cons_self

/-- **a chain refreshed with `keep` loses nothing the master key still holds** -/
theorem refreshChain_keeps {m u : List Sk} (hnd : m.Nodup) (h : Compat m u) :
    ∀ s ∈ u, s ∈ m → ∃ c, refreshChain m u = some c ∧ s ∈ c := by
  obtain ⟨a, b, e, d, rfl, rfl, hd⟩ := h
  intro s hs hsm
  have hsb : s ∈ b := (List.mem_append.1 hs).resolve_right fun h1 => hd s h1 hsm
  cases b with
  | nil => cases hsb
  | cons b0 bt =>
    simp only [List.append_assoc, List.cons_append] at hnd ⊢
    have hb0 : b0 ∉ a := fun hin => (List.nodup_append.1 hnd).2.2 b0 hin b0 List.mem_cons_self rfl
    rw [refreshChain_of_mem a (bt ++ e) (bt ++ d) b0 hb0, commonPrefix_append_left]
    refine ⟨_, rfl, List.mem_append_right _ ?_⟩
    rcases List.mem_cons.1 hsb with h1 | h1
    · rw [h1]; exact List.mem_cons_self
    · exact List.mem_cons_of_mem _ (List.mem_append_left _ h1)

theorem sorted_nodup {c : List (Bool × Sk)} (h : (c.map (·.2.tok)).Pairwise (· > ·)) : (c.map (·.2)).Nodup := by
  rw [List.pairwise_map] at h
  unfold List.Nodup
  rw [List.pairwise_map]
  exact h.imp (fun {a b} hab heq => by rw [heq] at hab; exact Nat.lt_irrefl _ hab)

/-- every chain of the user key sits inside the master chain of the same right (if that right is still
there), and all its tokens were drawn already -/
def Tracks (w : World) (usk : Usk) : Prop :=
  ∀ r u, (r, u) ∈ usk.secrets → (∀ k ∈ u, k.tok < w.rng) ∧
    ∀ mc, w.msk.secrets.lookup r = some mc → Compat (mc.map (·.2)) u

theorem step_tracks (w : World) (hr : Reachable w) (op : Op) (usk : Usk) (h : Tracks w usk) :
    Tracks (w.step op) usk := by
  intro r u hm
  obtain ⟨hb, hcm⟩ := h r u hm
  refine ⟨fun k hk => Nat.lt_of_lt_of_le (hb k hk) (step_rng_mono w op), fun mc' hl' => ?_⟩
  -- a token drawn since is none of the user's
  have hnew : ∀ {x : Sk} {t : Nat}, x ∈ u → w.rng ≤ t → x.tok ≠ t := fun hx ht e =>
    Nat.lt_irrefl _ (Nat.lt_of_lt_of_le (e ▸ hb _ hx) ht)
  cases hl : w.msk.secrets.lookup r with
  | none =>
    -- the right was not in the master key: it has just been (re)created with one fresh secret
    have hcs := step_chain w op r
    rw [hl, hl'] at hcs
    cases hcs with
    | born _ t hyb ro _ _ h1 _ =>
      exact Compat.of_disjoint fun x hx hxm => hnew hx h1 (congrArg Sk.tok (List.mem_singleton.1 hxm))
  | some mc =>
    have hcomp := hcm mc hl
    rcases step_secrets w hr op r mc hl with hnone | ⟨c', hc', ⟨news, hn, hfresh⟩ | hprune⟩
    · rw [hnone] at hl'; cases hl'
    · cases hc'.symm.trans hl'
      rw [hn]
      exact hcomp.append_fresh news fun x hx hxu => hnew hxu (hfresh x hx) rfl
    · cases hc'.symm.trans hl'
      rw [hprune]
      exact hcomp.take_one (sorted_nodup ((reachable_coh w hr).sorted r mc hl))

theorem steps_tracks (ops : List Op) : ∀ (w : World), Reachable w → ∀ usk, Tracks w usk →
    Tracks (ops.foldl World.step w) usk := fun _ hr usk h =>
  Reachable.foldl_induction (fun w op hr h => step_tracks w hr op usk h) hr h ops

theorem refresh_keep_shape (msk : Msk) (usk : Usk) (n : Rng) (h : (refresh msk usk true n).1 = .ok ())
    (hlen : usk.id.length = msk.ntracers) :
    (refresh msk usk true n).2.2.1.auth = usk.auth ∧ (refresh msk usk true n).2.2.1.nps = usk.nps ∧
    (refresh msk usk true n).2.2.1.id = usk.id ∧
    (refresh msk usk true n).2.2.1.secrets = refreshCoordinateKeys msk usk.secrets := by
  have hk := ((refresh_ok_iff msk usk true n).1 h).2.1
  obtain ⟨-, nid, nr, hid, hnr, e⟩ := refresh_ok_spec h
  rw [refreshId_same_level n hk hlen] at hid
  cases hid
  cases hnr
  rw [e]; exact ⟨rfl, rfl, rfl, rfl⟩

/-- **a key refreshed with `keep old secrets` still holds every secret it held that the master key still holds** -/
theorem tracks_refresh_keeps (w : World) (hr : Reachable w) (usk : Usk) (ht : Tracks w usk)
    (hlen : usk.id.length = w.msk.ntracers) (hok : (refresh w.msk usk true w.rng).1 = .ok ()) :
    ∀ r u, (r, u) ∈ usk.secrets → ∀ mc, w.msk.secrets.lookup r = some mc →
      ∀ s ∈ u, s ∈ mc.map (·.2) → ∃ c', (r, c') ∈ (refresh w.msk usk true w.rng).2.2.1.secrets ∧ s ∈ c' := by
  intro r u hm mc hl s hs hsm
  obtain ⟨c, hrc, hsc⟩ := refreshChain_keeps (sorted_nodup ((reachable_coh w hr).sorted r mc hl))
    ((ht r u hm).2 mc hl) s hs hsm
  rw [(refresh_keep_shape w.msk usk w.rng hok hlen).2.2.2]
  exact ⟨c, mem_refreshCoordinateKeys.2 ⟨u, mc, hm, hl, hrc⟩, hsc⟩

theorem tracks_of_prefix {w w' : World} (hinv : w.msk.Inv w.rng) (hmono : w.rng ≤ w'.rng)
    (hsec : w'.msk.secrets = w.msk.secrets) {usk : Usk}
    (h : ∀ r c, (r, c) ∈ usk.secrets → ∃ mc, w.msk.secrets.lookup r = some mc ∧ c <+: mc.map (·.2)) :
    Tracks w' usk := by
  intro r c hm
  obtain ⟨mc, hl, hpre⟩ := h r c hm
  refine ⟨fun k hk => ?_, fun mc' hl' => ?_⟩
  · obtain ⟨v, hv, rfl⟩ := List.mem_map.1 (hpre.subset hk)
    exact Nat.lt_of_lt_of_le (hinv.below r mc (lookup_mem hl) v hv) hmono
  · cases hl.symm.trans (hsec ▸ hl')
    exact Compat.of_prefix hpre

theorem keygen_tracks (w : World) (hr : Reachable w) (p : AP) (rights : List Right)
    (hrights : w.msk.structure_.uskRights p = .ok rights) (usk : Usk)
    (hk : (uskKeygen w.msk rights w.rng).1 = .ok usk) : Tracks (w.step (.keygen p)) usk := by
  refine tracks_of_prefix (reachable_inv w hr) (step_rng_mono w _)
    (by simp only [World.step, hrights, (uskKeygen_side _ _ _).secrets]) fun r u hm => ?_
  -- the chains of the new key are the singletons of the newest secrets
  obtain ⟨chains, hl, -, rfl, -⟩ := uskKeygen_ok_spec hk
  obtain ⟨-, act, sk, hg, rfl⟩ := (latestRightSks_mem w.msk rights chains hl r u).1 hm
  obtain ⟨t, ht⟩ := RevMap.getLatest_eq_some_iff.1 hg
  exact ⟨_, ht, List.cons_prefix_cons.2 ⟨rfl, List.nil_prefix⟩⟩

theorem refresh_tracks (w : World) (hr : Reachable w) (usk : Usk) (keep : Bool)
    (hok : (refresh w.msk usk keep w.rng).1 = .ok ()) :
    Tracks (w.step (.refresh usk keep)) (refresh w.msk usk keep w.rng).2.2.1 :=
  tracks_of_prefix (reachable_inv w hr) (step_rng_mono w (.refresh usk keep)) (refresh_side w.msk usk keep w.rng).secrets fun r c hm =>
    let ⟨mc, hl, hpre, _, _⟩ := refresh_secrets_spec w.msk usk keep w.rng hok r c hm
    ⟨mc, hl, hpre⟩

end CC
