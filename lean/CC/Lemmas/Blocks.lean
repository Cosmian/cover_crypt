/-! Concatenations of blocks that can be cut back into the blocks. Core Lean only. -/
namespace CC

/-- `g`: the shape of a block; a block of known shape can be cut off the front -/
theorem flatMap_append_inj {α β γ : Type} (f : α → List γ) (g : α → β)
    (hf : ∀ x y r1 r2, g x = g y → f x ++ r1 = f y ++ r2 → x = y ∧ r1 = r2) :
    ∀ (xs ys : List α) (r1 r2 : List γ), xs.map g = ys.map g →
      xs.flatMap f ++ r1 = ys.flatMap f ++ r2 → xs = ys ∧ r1 = r2
  | [], [], _, _, _, h => ⟨rfl, h⟩
  | x :: xs, y :: ys, r1, r2, hl, h => by
    rw [List.map_cons, List.map_cons, List.cons.injEq] at hl
    rw [List.flatMap_cons, List.flatMap_cons, List.append_assoc, List.append_assoc] at h
    obtain ⟨rfl, h'⟩ := hf x y _ _ hl.1 h
    obtain ⟨rfl, h''⟩ := flatMap_append_inj f g hf xs ys r1 r2 hl.2 h'
    exact ⟨rfl, h''⟩

theorem flatten_append_inj {γ : Type} (xs ys : List (List γ)) (r1 r2 : List γ)
    (hl : xs.map List.length = ys.map List.length) (h : xs.flatten ++ r1 = ys.flatten ++ r2) :
    xs = ys ∧ r1 = r2 := by
  rw [← List.flatMap_id, ← List.flatMap_id] at h
  exact flatMap_append_inj id List.length (fun _ _ _ _ hl h => List.append_inj h hl) xs ys r1 r2 hl h

theorem flatten_inj_of_length {γ : Type} (n : Nat) (hn : 0 < n) (xs ys : List (List γ))
    (hx : ∀ x ∈ xs, x.length = n) (hy : ∀ y ∈ ys, y.length = n) (h : xs.flatten = ys.flatten) : xs = ys := by
  -- as many blocks on both sides: `xs.length * n = ys.length * n`
  have hlen : xs.length = ys.length := by
    have := congrArg List.length h
    rw [List.length_flatten, List.length_flatten, List.map_congr_left hx, List.map_congr_left hy,
      List.map_const', List.map_const', List.sum_replicate_nat, List.sum_replicate_nat] at this
    exact Nat.eq_of_mul_eq_mul_right hn this
  refine (flatten_append_inj xs ys [] [] ?_ (by rw [List.append_nil, List.append_nil]; exact h)).1
  rw [List.map_congr_left hx, List.map_congr_left hy, List.map_const', List.map_const', hlen]

end CC
