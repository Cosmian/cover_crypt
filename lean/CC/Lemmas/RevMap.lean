import CC.Model.Prims
import CC.Lemmas.Assoc
/-! The `RevisionMap` operations seen through `lookup`, the keys and membership. -/
namespace CC

section onChain
variable {β : Type} (m : List (Right × β)) (r : Right) (f : β → β)

theorem lookup_mapVal (k : Right) :
    (m.map (fun p => if p.1 == r then (p.1, f p.2) else p)).lookup k =
      if k == r then (m.lookup k).map f else m.lookup k := by
  rw [lookup_map_of_fst (fun p => by split <;> rfl)]
  by_cases h : (k == r) = true
  · simp only [h, if_true]
  · simp only [h]; exact Option.map_id'

theorem keys_mapVal : (m.map (fun p => if p.1 == r then (p.1, f p.2) else p)).map (·.1) = m.map (·.1) :=
  keys_map_of_fst fun p => by split <;> rfl

variable {m r f}

theorem mem_mapVal {k : Right} {c : β} (h : (k, c) ∈ m.map (fun p => if p.1 == r then (p.1, f p.2) else p)) :
    ∃ c0, (k, c0) ∈ m ∧ ((k = r ∧ c = f c0) ∨ (k ≠ r ∧ c = c0)) := by
  obtain ⟨⟨k', c'⟩, hm, heq⟩ := List.mem_map.1 h
  split at heq
  · rename_i hk; cases heq; exact ⟨c', hm, .inl ⟨eq_of_beq hk, rfl⟩⟩
  · rename_i hk; cases heq; exact ⟨c, hm, .inr ⟨fun e => hk (beq_iff_eq.2 e), rfl⟩⟩

end onChain

namespace RevMap

theorem lookup_insert (m : RevMap) (r : Right) (v : Bool × Sk) (k : Right) :
    (m.insert r v).lookup k =
      if k == r then some (v :: (m.lookup r).getD []) else m.lookup k := by
  unfold RevMap.insert
  cases hr : m.lookup r with
  | some c =>
    rw [if_pos (show (some c).isSome = true from rfl), lookup_mapVal]
    split
    · rename_i hk; rw [eq_of_beq hk, hr]; rfl
    · rfl
  | none =>
    rw [if_neg (show ¬ (none : Option (List (Bool × Sk))).isSome = true from Bool.false_ne_true), lookup_append_singleton]
    split
    · rename_i hk; rw [eq_of_beq hk, hr]; rfl
    · exact Option.or_none

theorem lookup_setLatest (m : RevMap) (r : Right) (v : Bool × Sk) (k : Right) :
    (m.setLatest r v).lookup k =
      if k == r then (m.lookup k).map (RevMap.setHead v) else m.lookup k :=
  lookup_mapVal m r (RevMap.setHead v) k

theorem lookup_keep (m : RevMap) (r : Right) (n : Nat) (k : Right) :
    (m.keep r n).lookup k =
      if k == r then (m.lookup k).map (RevMap.keepN n) else m.lookup k :=
  lookup_mapVal m r (RevMap.keepN n) k

theorem lookup_retain (m : RevMap) (f : Right → Bool) (k : Right) :
    (m.retain f).lookup k = if f k then m.lookup k else none :=
  lookup_filter_key f

theorem getLatest_eq_some_iff {m : RevMap} {r : Right} {v : Bool × Sk} :
    m.getLatest r = some v ↔ ∃ t, m.lookup r = some (v :: t) := by
  unfold RevMap.getLatest
  cases m.lookup r with
  | none => exact ⟨fun h => (nomatch h), fun ⟨_, h⟩ => (nomatch h)⟩
  | some c =>
    cases c with
    | nil => exact ⟨fun h => (nomatch h), fun ⟨_, h⟩ => (nomatch h)⟩
    | cons a t => exact ⟨fun h => ⟨t, by cases h; rfl⟩, fun ⟨_, h⟩ => by cases h; rfl⟩

theorem containsKey_of_getLatest {m : RevMap} {r : Right} {v : Bool × Sk} (h : m.getLatest r = some v) :
    m.containsKey r = true := by
  obtain ⟨t, hl⟩ := getLatest_eq_some_iff.1 h
  unfold RevMap.containsKey; rw [hl]; rfl

theorem getLatest_eq_none_iff {m : RevMap} {r : Right} :
    m.getLatest r = none ↔ (m.lookup r).getD [] = [] := by
  unfold RevMap.getLatest
  cases m.lookup r with
  | none => exact ⟨fun _ => rfl, fun _ => rfl⟩
  | some c =>
    cases c with
    | nil => exact ⟨fun _ => rfl, fun _ => rfl⟩
    | cons a t => exact ⟨fun h => (nomatch h), fun h => (nomatch h)⟩

theorem getLatest_insert (m : RevMap) (r : Right) (v : Bool × Sk) (k : Right) :
    (m.insert r v).getLatest k = if k == r then some v else m.getLatest k := by
  unfold RevMap.getLatest
  rw [lookup_insert]
  split <;> rfl

theorem getLatest_setLatest (m : RevMap) (r : Right) (v : Bool × Sk) (k : Right) :
    (m.setLatest r v).getLatest k = if k == r then (m.getLatest k).map (fun _ => v) else m.getLatest k := by
  unfold RevMap.getLatest
  rw [lookup_setLatest]
  split
  · cases m.lookup k with
    | none => rfl
    | some c => cases c <;> rfl
  · rfl

theorem isSome_getLatest_insert {m : RevMap} {k : Right} (r : Right) (v : Bool × Sk)
    (h : (m.getLatest k).isSome = true) : ((m.insert r v).getLatest k).isSome = true := by
  rw [getLatest_insert]
  split
  · rfl
  · exact h

theorem isSome_getLatest_setLatest {m : RevMap} {k : Right} (r : Right) (v : Bool × Sk)
    (h : (m.getLatest k).isSome = true) : ((m.setLatest r v).getLatest k).isSome = true := by
  rw [getLatest_setLatest]
  split
  · rw [Option.isSome_map]; exact h
  · exact h

theorem getLatest_retain (m : RevMap) (f : Right → Bool) (k : Right) :
    (m.retain f).getLatest k = if f k then m.getLatest k else none := by
  unfold RevMap.getLatest
  rw [lookup_retain]
  split <;> rfl

theorem keepN_one_eq (c : List (Bool × Sk)) : RevMap.keepN 1 c = c.take 1 := by
  cases c <;> rfl

theorem getLatest_keep_one (m : RevMap) (r k : Right) : (m.keep r 1).getLatest k = m.getLatest k := by
  unfold RevMap.getLatest
  rw [lookup_keep]
  split
  · cases m.lookup k with
    | none => rfl
    | some c => cases c <;> rfl
  · rfl

end RevMap

theorem getLatest_mem {m : RevMap} {r : Right} {v : Bool × Sk} (h : m.getLatest r = some v) :
    ∃ c, (r, c) ∈ m ∧ v ∈ c := by
  obtain ⟨t, hl⟩ := RevMap.getLatest_eq_some_iff.1 h
  exact ⟨v :: t, lookup_mem hl, List.mem_cons_self⟩

end CC
