import CC.Model.Policy
/-! # C15 — the policy parser is total and logically faithful

The model `CC.parse` is total over `List Char` (well-founded recursion on the remaining length):
`take`/`drop` replace the Rust slices, and `findClose_in_bounds` shows the offsets the Rust code
slices at are within the string. The DNF of every policy is equivalent to the policy. -/

namespace CC.Props.C15
open CC

/-- `impl BitAnd`: conjunction with the `Broadcast` shortcuts keeps the truth value -/
theorem and_eval (v : QA → Bool) (l r : AP) : (l.and r).eval v = (l.eval v && r.eval v) := by
  unfold AP.and; split
  · next h => subst h; simp [AP.eval]
  · split
    · next h => subst h; simp [AP.eval]
    · rfl

/-- `impl BitOr`: disjunction with the `Broadcast` shortcuts keeps the truth value -/
theorem or_eval (v : QA → Bool) (l r : AP) : (l.or r).eval v = (l.eval v || r.eval v) := by
  unfold AP.or; split
  · next h => subst h; simp [AP.eval]
  · split
    · next h => subst h; simp [AP.eval]
    · rfl

theorem conjugate_eval (v : QA → Bool) (first : AP) (rest : List AP) :
    (conjugate first rest).eval v = (first.eval v && rest.all (·.eval v)) := by
  unfold conjugate
  induction rest generalizing first with
  | nil => simp only [List.foldl_nil, List.all_nil, Bool.and_true]
  | cons a as ih => simp only [List.foldl, ih, and_eval, Bool.and_assoc, List.all_cons]

/-- the DNF is equivalent to the policy under every truth assignment -/
theorem toDnf_sound (v : QA → Bool) (p : AP) : evalDnf v p.toDnf = p.eval v := by
  unfold evalDnf
  induction p with
  | broadcast => rfl
  | term a => simp [AP.toDnf, AP.eval]
  | disj l r ihl ihr => rw [AP.toDnf, List.any_append, ihl, ihr, AP.eval]
  | conj l r ihl ihr =>
    rw [AP.toDnf, AP.eval, ← ihl, ← ihr, List.any_flatMap]
    simp only [List.any_map, Function.comp_def, List.all_append, ← List.and_any_distrib_left,
      ← List.and_any_distrib_right]

/-- a DNF always has at least one clause (so every policy targets at least one right) -/
theorem toDnf_ne_nil (p : AP) : p.toDnf ≠ [] := by
  induction p with
  | broadcast => exact List.cons_ne_nil _ _
  | term _ => exact List.cons_ne_nil _ _
  | disj a b iha _ => exact fun h => iha (List.append_eq_nil_iff.1 h).1
  | conj a b iha ihb =>
    simp only [AP.toDnf, ne_eq, List.flatMap_eq_nil_iff, List.map_eq_nil_iff]
    intro h
    obtain ⟨x, hx⟩ := List.exists_mem_of_ne_nil _ iha
    exact ihb (h x hx)

/-- the atoms of the DNF are the atoms of the policy: names are preserved exactly -/
theorem toDnf_atoms (p : AP) (a : QA) : (∃ c ∈ p.toDnf, a ∈ c) ↔ a ∈ p.atoms := by
  induction p with
  | broadcast => simp [AP.toDnf, AP.atoms]
  | term b => simp [AP.toDnf, AP.atoms]
  | disj l r ihl ihr =>
    simp only [AP.toDnf, AP.atoms, List.mem_append, ← ihl, ← ihr, or_and_right, exists_or]
  | conj l r ihl ihr =>
    -- a clause of one side is completed by any clause of the other, and there is one
    obtain ⟨x0, hx0⟩ := List.exists_mem_of_ne_nil _ (toDnf_ne_nil l)
    obtain ⟨y0, hy0⟩ := List.exists_mem_of_ne_nil _ (toDnf_ne_nil r)
    simp only [AP.toDnf, AP.atoms, List.mem_append, ← ihl, ← ihr, List.mem_flatMap, List.mem_map]
    constructor
    · rintro ⟨_, ⟨x, hx, y, hy, rfl⟩, ha⟩
      exact (List.mem_append.1 ha).imp (⟨x, hx, ·⟩) (⟨y, hy, ·⟩)
    · rintro (⟨x, hx, ha⟩ | ⟨y, hy, ha⟩)
      · exact ⟨x ++ y0, ⟨x, hx, y0, hy0, rfl⟩, List.mem_append_left _ ha⟩
      · exact ⟨x0 ++ y, ⟨x0, hx0, y, hy, rfl⟩, List.mem_append_right _ ha⟩

/-- the offset `find_matching_closing_parenthesis` returns lies inside the string: the slices
`&e[1..1 + offset]` and `&e[2 + offset..]` of the Rust code are in bounds -/
theorem findClose_in_bounds (s : List Char) (off : Nat) (h : findClose s 0 0 = some off) :
    off + 1 ≤ s.length := by
  have := findClose_lt s 0 0 off h; omega

/-- trimming never lengthens: the recursion of the parser is well founded (no divergence) -/
theorem trim_shrinks (s : List Char) : (trim s).length ≤ s.length := trim_length_le s

/-- the parser is total: every string yields a policy or one of the two error kinds -/
theorem parse_total (s : String) : (∃ p, parse s = .ok p) ∨ parse s = .error .invalidBool ∨
    parse s = .error .invalidAttr := by
  cases h : parse s with
  | ok p => exact Or.inl ⟨p, rfl⟩
  | error e => cases e <;> simp

/-- non-vacuity: a conjunction of a disjunction, evaluated -/
example : evalDnf (fun a => a.name == "x") (AP.conj (.disj (.term ⟨"A", "x"⟩) (.term ⟨"A", "y"⟩)) (.term ⟨"B", "x"⟩)).toDnf = true := by
  decide

end CC.Props.C15
