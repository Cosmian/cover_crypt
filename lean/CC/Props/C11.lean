import CC.Lemmas.Comb
import CC.Lemmas.Contig
/-! # C11 — post-quantum protection is applied exactly where the policy asks for it -/

namespace CC.Props.C11
open CC

/-- a right is hybridized iff at least one of its attributes was declared hybridized -/
theorem right_hint (ds : List Dim) (p : List Nat) (h r : Bool) (hm : (p, h, r) ∈ combine ds) :
    ∃ as, Choice ds as ∧ p = as.map (·.id) ∧ (h = true ↔ ∃ a ∈ as, a.hyb = true) := by
  obtain ⟨as, hc, hp, hh, _⟩ := (mem_combine ds p h r).1 hm
  exact ⟨as, hc, hp, hh ▸ List.any_eq_true⟩

/-- a secret created by `update_msk` for a new right has the flavour of the right's hint -/
theorem update_new_secret_flavour (secrets : RevMap) (r : Right) (hyb : Bool) (n : Rng)
    (h : secrets.getLatest r = none) :
    (updateLoop secrets [(r, hyb, false)] n).1 = .ok (secrets.insert r (true, ⟨n, hyb⟩)) := by
  simp only [updateLoop, h, Bool.false_eq_true, if_false]

/-- `rekey` keeps the flavour of every right -/
theorem rekey_keeps_flavour (secrets : RevMap) (rights : List Right) (n : Rng) (k : Right) :
    ((rekeyLoop secrets rights n).2.1.getLatest k).map (·.2.hyb) = (secrets.getLatest k).map (·.2.hyb) := by
  have := congrArg (Option.map Prod.snd) (rekeyLoop_latest secrets rights n k)
  rw [Option.map_map, Option.map_map] at this
  exact this

/-- the public key of a right has the flavour of the master secret it is derived from -/
theorem mpk_flavour (msk : Msk) (r : Right) (pk : Sk) (h : (r, pk) ∈ msk.mpk.keys) :
    ∃ chain act, (r, chain) ∈ msk.secrets ∧ chain.head? = some (act, pk) := by
  obtain ⟨chain, hm, hc⟩ := mem_mpk_keys.1 h
  exact ⟨chain, true, hm, hc⟩

/-- refreshed user keys hold copies of master secrets, flavour included -/
theorem refresh_copies_master (m u c : List Sk) (h : refreshChain m u = some c) : ∀ s ∈ c, s ∈ m :=
  fun _ hs => (refreshChain_prefix m u c h).subset hs

/-- an encapsulation is hybridized iff every public key it targets is hybridized -/
theorem encaps_hybrid_iff_all (mpk : Mpk) (targets : List Right) (n : Rng) (s : Nat) (x : XEnc)
    (h : (encaps mpk targets n).1 = .ok (s, x)) : x.hybrid = x.targets.all (·.hyb) :=
  (encaps_ok_spec h).2.1

/-- in a hybridized encapsulation a classic secret opens nothing (`CC.Props.C07`: the ML-KEM
ciphertexts are bound into the tag) -/
theorem classic_secret_opens_no_hybrid (s t : Sk) (h : s.hyb = false) : opens true s t = false := by
  unfold opens; rw [h]; exact Bool.and_false _

/-- **Flavours are coherent over every history.** In any reachable world, for every right of the
master key all of whose attributes still exist, the newest secret is hybridized exactly when one of
those attributes was declared hybridized. -/
theorem flavour_follows_hints (w : World) (hw : Reachable w) (r : Right) (c : List (Bool × Sk))
    (hl : w.msk.secrets.lookup r = some c) (ids : List Nat) (hr : r = Right.fromPoint ids)
    (hlive : ∀ i ∈ ids, w.msk.structure_.live i) (v : Bool × Sk) (hv : c.head? = some v) :
    v.2.hyb = ids.any w.msk.structure_.hybId :=
  (reachable_coh w hw).hint r c hl ids hr hlive v hv

/-- … so `update_msk` never strips the post-quantum part of a secret: the `drop_hybridization`
branch is a no-op in every reachable world -/
theorem update_never_strips (w : World) (hw : Reachable w) (k : Right) (c : List (Bool × Sk))
    (hl : w.msk.secrets.lookup k = some c) :
    (w.step .update).msk.secrets.lookup k = none ∨
    ∃ c', (w.step .update).msk.secrets.lookup k = some c' ∧ c'.map (·.2) = c.map (·.2) :=
  update_keeps_secrets w hw k c hl

end CC.Props.C11
