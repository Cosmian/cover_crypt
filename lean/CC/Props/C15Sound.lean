import CC.Props.C15
import CC.Lemmas.Parse
/-! # C15 — the parser is logically faithful on the documented grammar (`parse_sound`)

The grammar with its meaning, as an inductive relation `Den lvl s f` (the text `s` at precedence
level `lvl` denotes the boolean function `f`): parentheses first, `&&` before `||`, blanks anywhere
between tokens and around the two names of an attribute, redundant parentheses allowed. Whatever
text the grammar derives, the parser returns a policy that evaluates to the denoted function under
every truth assignment, with the attribute names as written (trimmed). -/
namespace CC.Props.C15
open CC CC.Parse

inductive Lvl | unit | conj | disj

/-- the documented grammar and its meaning -/
inductive Den : Lvl → List Char → ((QA → Bool) → Bool) → Prop
  | atom (raw : List Char) (a : QA) : AtomText raw a → Den .unit raw (fun v => v a)
  | paren (s : List Char) (f) : Den .disj s f → Den .unit ('(' :: s ++ [')']) f
  | wsL (c : Char) (s : List Char) (f) : isWs c = true → Den .unit s f → Den .unit (c :: s) f
  | wsR (c : Char) (s : List Char) (f) : isWs c = true → Den .unit s f → Den .unit (s ++ [c]) f
  | unit (s : List Char) (f) : Den .unit s f → Den .conj s f
  | and (s t : List Char) (f g) : Den .unit s f → Den .conj t g →
      Den .conj (s ++ '&' :: '&' :: t) (fun v => f v && g v)
  | conj (s : List Char) (f) : Den .conj s f → Den .disj s f
  | or (s t : List Char) (f g) : Den .conj s f → Den .disj t g →
      Den .disj (s ++ '|' :: '|' :: t) (fun v => f v || g v)

/-- what the induction carries at each level: below `||` a text is parsed in a context (a queue of operands
already read, and a `rest` that starts at a token boundary); a disjunction only stands at top level or
between parentheses, so it is parsed from an empty queue to the end, trailing blanks aside -/
def Motive : Lvl → List Char → ((QA → Bool) → Bool) → Prop
  | .unit, s, f => ∀ q rest, Boundary rest →
      ∃ p, (∀ v, p.eval v = f v) ∧ parseLoop q (s ++ rest) = parseLoop (q ++ [p]) rest
  | .conj, s, f => ∀ q rest, Boundary rest →
      ∃ p ps, (∀ v, (p.eval v && ps.all (·.eval v)) = f v) ∧ parseLoop q (s ++ rest) = parseLoop (q ++ p :: ps) rest
  | .disj, s, f => ∀ w, AllWs w → ∃ p, (∀ v, p.eval v = f v) ∧ parseLoop [] (s ++ w) = .ok p

theorem bal_of_notMeta : ∀ (x : List Char), (∀ c ∈ x, isMeta c = false) → Bal x
  | [], _ => .nil
  | c :: x, h => by
    have hc := h c List.mem_cons_self
    refine .other c x ?_ ?_ (bal_of_notMeta x (fun y hy => h y (List.mem_cons_of_mem _ hy)))
    · intro hh; subst hh; exact absurd hc (by decide)
    · intro hh; subst hh; exact absurd hc (by decide)

theorem bal_ws {c : Char} (hc : isWs c = true) {s : List Char} (hs : Bal s) : Bal (c :: s) :=
  .other c s (by rintro rfl; exact absurd hc (by decide)) (by rintro rfl; exact absurd hc (by decide)) hs

theorem bal_atom {raw : List Char} {a : QA} (h : AtomText raw a) : Bal raw := by
  obtain ⟨c0, d, n, rfl, _, hd, hn, _, _⟩ := h
  exact bal_of_notMeta _ (notMeta_atom hd hn)

theorem boundary_meta (c : Char) (t : List Char) (hc : isMeta c = true) : Boundary (c :: t) :=
  ⟨[], c :: t, rfl, (fun x hx => by cases hx), Or.inr ⟨c, t, rfl, hc⟩⟩

theorem boundary_ws (w : List Char) (hw : AllWs w) : Boundary w :=
  ⟨w, [], (List.append_nil w).symm, hw, Or.inl rfl⟩

theorem boundary_cons_ws (c : Char) (rest : List Char) (hc : isWs c = true) (h : Boundary rest) : Boundary (c :: rest) := by
  obtain ⟨w, tail, rfl, hw, ht⟩ := h
  exact ⟨c :: w, tail, rfl, List.forall_mem_cons.2 ⟨hc, hw⟩, ht⟩

/-- the parentheses of a derived text match -/
theorem den_bal {lvl s f} (h : Den lvl s f) : Bal s := by
  induction h with
  | atom raw a hat => exact bal_atom hat
  | paren s f _ ih => exact .paren s [] ih .nil
  | wsL c s f hc _ ih => exact bal_ws hc ih
  | wsR c s f hc _ ih => exact ih.append (bal_ws hc .nil)
  | unit s f _ ih | conj s f _ ih => exact ih
  | and s t f g _ _ ih1 ih2 =>
    exact ih1.append (.other '&' _ (by decide) (by decide) (.other '&' _ (by decide) (by decide) ih2))
  | or s t f g _ _ ih1 ih2 =>
    exact ih1.append (.other '|' _ (by decide) (by decide) (.other '|' _ (by decide) (by decide) ih2))

theorem den_motive : ∀ {lvl s f}, Den lvl s f → Motive lvl s f := by
  intro lvl s f h
  induction h with
  | atom raw a hat => exact fun q rest hb => ⟨.term a, fun v => rfl, atom_step hat q rest hb⟩
  | paren s f hs ih =>
    obtain ⟨p, hp, hparse⟩ := ih [] (List.forall_mem_nil _)
    rw [List.append_nil] at hparse
    refine fun q rest hb => ⟨p, hp, ?_⟩
    rw [List.append_assoc, List.singleton_append, parseLoop_paren q (den_bal hs), hparse]
  | wsL c s f hc _ ih =>
    intro q rest hb
    obtain ⟨p, hp, hparse⟩ := ih q rest hb
    exact ⟨p, hp, (parseLoop_ws q (w := [c]) (List.forall_mem_singleton.2 hc) _).trans hparse⟩
  | wsR c s f hc _ ih =>
    intro q rest hb
    obtain ⟨p, hp, hparse⟩ := ih q (c :: rest) (boundary_cons_ws c rest hc hb)
    refine ⟨p, hp, ?_⟩
    rw [List.append_assoc, List.singleton_append, hparse]
    exact parseLoop_ws _ (w := [c]) (List.forall_mem_singleton.2 hc) _
  | unit s f _ ih =>
    intro q rest hb
    obtain ⟨p, hp, hparse⟩ := ih q rest hb
    exact ⟨p, [], fun v => by rw [hp v, List.all_nil, Bool.and_true], hparse⟩
  | and s t f g _ _ ih1 ih2 =>
    intro q rest hb
    obtain ⟨p, hp, hparse1⟩ := ih1 q ('&' :: '&' :: (t ++ rest)) (boundary_meta _ _ (by decide))
    obtain ⟨p', ps, hps, hparse2⟩ := ih2 (q ++ [p]) rest hb
    refine ⟨p, p' :: ps, fun v => by simp only [hp v, List.all_cons, ← hps v], ?_⟩
    rw [List.append_assoc, List.cons_append, List.cons_append, hparse1, parseLoop_and, if_neg (by cases q <;> exact Bool.false_ne_true), hparse2,
      List.append_assoc, List.singleton_append]
  | conj s f _ ih =>
    intro w hw
    obtain ⟨first, rest, hps, hparse⟩ := ih [] w (boundary_ws w hw)
    rw [hparse, parseLoop_blank _ hw]
    exact ⟨conjugate first rest, fun v => by rw [conjugate_eval, hps v], rfl⟩
  | or s t f g _ _ ih1 ih2 =>
    intro w hw
    obtain ⟨base, qs, hps, hparse1⟩ := ih1 [] ('|' :: '|' :: (t ++ w)) (boundary_meta _ _ (by decide))
    obtain ⟨p2, hp2, hparse2⟩ := ih2 w hw
    rw [List.append_assoc, List.cons_append, List.cons_append, hparse1, parseLoop_or, hparse2]
    exact ⟨(conjugate base qs).or p2, fun v => by rw [or_eval, conjugate_eval, hp2 v, hps v], rfl⟩

/-- **`parse_sound`.** Every text derived by the documented grammar parses, and the parsed policy
evaluates to the denoted boolean expression under every truth assignment; so does its disjunctive
normal form. -/
theorem parse_sound (s : List Char) (f : (QA → Bool) → Bool) (h : Den .disj s f) :
    ∃ p, parse (String.ofList s) = .ok p ∧ (∀ v, p.eval v = f v) ∧ (∀ v, evalDnf v p.toDnf = f v) := by
  obtain ⟨p, hp, hparse⟩ := den_motive h [] (fun _ h => by cases h)
  refine ⟨p, ?_, hp, fun v => by rw [toDnf_sound, hp v]⟩
  unfold parse
  simpa only [String.toList_ofList, List.append_nil] using hparse

/-- the policy `*` alone is the broadcast policy -/
theorem parse_star : parse "*" = .ok .broadcast := by
  unfold parse
  rw [parseLoop.eq_def, show trim "*".toList = ['*'] by decide]
  rfl

/-- non-vacuity: the text `A::B && (C::D || E :: F)` is derived by the grammar with the meaning
`A::B ∧ (C::D ∨ E::F)` (names trimmed) -/
example : Den .disj "A::B && (C::D || E :: F)".toList
    (fun v => v ⟨"A", "B"⟩ && (v ⟨"C", "D"⟩ || v ⟨"E", "F"⟩)) := by
  have a1 : AtomText ['A', ':', ':', 'B', ' '] ⟨"A", "B"⟩ :=
    ⟨'A', [], ['B', ' '], rfl, by decide⟩
  have a2 : AtomText ['C', ':', ':', 'D', ' '] ⟨"C", "D"⟩ :=
    ⟨'C', [], ['D', ' '], rfl, by decide⟩
  have a3 : AtomText ['E', ' ', ':', ':', ' ', 'F'] ⟨"E", "F"⟩ :=
    ⟨'E', [' '], [' ', 'F'], rfl, by decide⟩
  exact .conj _ _ (.and _ _ _ _ (.atom _ _ a1) (.unit _ _ (.wsL ' ' _ _ (by decide) (.paren _ _
    (.or _ _ _ _ (.unit _ _ (.atom _ _ a2)) (.conj _ _ (.unit _ _ (.wsL ' ' _ _ (by decide) (.atom _ _ a3)))))))))
end CC.Props.C15
