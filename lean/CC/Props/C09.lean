import CC.Lemmas.Issued
/-! # C09 — every API call succeeds or fails exactly as its contract says

For all states and arguments: when the model of each operation returns an error. -/

namespace CC.Props.C09
open CC

theorem isError_iff {ε α : Type} (x : Except ε α) : (∃ e, x = .error e) ↔ ¬ ∃ a, x = .ok a := by
  cases x with
  | error e => exact ⟨fun _ ⟨_, h⟩ => (nomatch h), fun _ => ⟨e, rfl⟩⟩
  | ok a => exact ⟨fun ⟨_, h⟩ => (nomatch h), fun h => absurd ⟨a, rfl⟩ h⟩

/-- `add_anarchy` / `add_hierarchy` fail exactly on a duplicate dimension name -/
theorem addDimension_err_iff (s : Struct) (name : String) (o : Bool) :
    (∃ e, s.addDimension name o = .error e) ↔ (s.dims.lookup name).isSome := by
  unfold Struct.addDimension
  cases h : s.dims.lookup name <;> simp

/-- `del_dimension` fails exactly on an unknown dimension -/
theorem delDimension_err_iff (s : Struct) (name : String) :
    (∃ e, s.delDimension name = .error e) ↔ (s.dims.lookup name).isNone := by
  unfold Struct.delDimension
  cases h : s.dims.lookup name <;> simp

theorem dim_addAttribute_err_iff (d : Dim) (name : String) (hyb : Bool) (after : Option String) (id : Nat) :
    (∃ e, d.addAttribute name hyb after id = .error e) ↔ (d.attrs.lookup name).isSome ∨
      (d.ordered = true ∧ ∃ af, after = some af ∧ (d.attrs.lookup af).isNone) := by
  unfold Dim.addAttribute
  cases hn : d.attrs.lookup name with
  | some v => exact iff_of_true (by cases d.ordered <;> exact ⟨_, rfl⟩) (.inl rfl)
  | none =>
    cases ho : d.ordered with
    | false => exact iff_of_false (fun ⟨_, h⟩ => nomatch h) (fun h => h.elim (nomatch ·) (nomatch ·.1))
    | true =>
      cases after with
      | none => exact iff_of_false (fun ⟨_, h⟩ => nomatch h) (fun h => h.elim (nomatch ·) fun ⟨_, _, h, _⟩ => nomatch h)
      | some af =>
        dsimp only
        cases ha : d.attrs.lookup af with
        | none => exact iff_of_true ⟨_, rfl⟩ (.inr ⟨rfl, af, rfl, by rw [ha]; rfl⟩)
        | some a =>
          refine iff_of_false (fun ⟨_, h⟩ => nomatch h) (fun h => h.elim (nomatch ·) fun ⟨_, af', e, h⟩ => ?_)
          cases e; rw [ha] at h; cases h

/-- `add_attribute`: unknown dimension, duplicate name, or (hierarchy only) unknown `after` -/
theorem addAttribute_err_iff (s : Struct) (dim name : String) (hyb : Bool) (after : Option String) :
    (∃ e, s.addAttribute dim name hyb after = .error e) ↔
      match s.dims.lookup dim with
      | none => True
      | some d => (d.attrs.lookup name).isSome ∨
          (d.ordered = true ∧ ∃ af, after = some af ∧ (d.attrs.lookup af).isNone) := by
  unfold Struct.addAttribute
  cases s.dims.lookup dim with
  | none => exact iff_of_true ⟨_, rfl⟩ trivial
  | some d =>
    dsimp only
    rw [← dim_addAttribute_err_iff d name hyb after s.nextId]
    cases d.addAttribute name hyb after s.nextId with
    | error e => exact iff_of_true ⟨e, rfl⟩ ⟨e, rfl⟩
    | ok d' => exact iff_of_false (fun ⟨_, h⟩ => nomatch h) (fun ⟨_, h⟩ => nomatch h)

theorem onDim_err_iff (s : Struct) (dim : String) (f : Dim → Except Err Dim) :
    (∃ e, s.onDim dim f = .error e) ↔
      match s.dims.lookup dim with
      | none => True
      | some d => ∃ e, f d = .error e := by
  unfold Struct.onDim
  cases s.dims.lookup dim with
  | none => exact iff_of_true ⟨_, rfl⟩ trivial
  | some d =>
    dsimp only
    cases f d with
    | error e => exact iff_of_true ⟨e, rfl⟩ ⟨e, rfl⟩
    | ok d' => exact iff_of_false (fun ⟨_, h⟩ => nomatch h) (fun ⟨_, h⟩ => nomatch h)

/-- `del_attribute` / `disable_attribute` fail exactly on an unknown dimension or attribute -/
theorem delAttribute_err_iff (s : Struct) (dim name : String) :
    (∃ e, s.delAttribute dim name = .error e) ↔
      match s.dims.lookup dim with
      | none => True
      | some d => (d.attrs.lookup name).isNone := by
  unfold Struct.delAttribute
  rw [onDim_err_iff]
  cases s.dims.lookup dim with
  | none => rfl
  | some d =>
    dsimp only
    rw [isError_iff]
    simp only [Dim.removeAttribute_ok]
    cases d.attrs.lookup name <;> simp

theorem disableAttribute_err_iff (s : Struct) (dim name : String) :
    (∃ e, s.disableAttribute dim name = .error e) ↔
      match s.dims.lookup dim with
      | none => True
      | some d => (d.attrs.lookup name).isNone := by
  unfold Struct.disableAttribute
  rw [onDim_err_iff]
  cases s.dims.lookup dim with
  | none => rfl
  | some d =>
    dsimp only
    rw [isError_iff]
    simp only [Dim.disableAttribute_ok]
    cases d.attrs.lookup name <;> simp

/-- `rename_attribute`: unknown dimension, unknown old name, or new name already used -/
theorem renameAttribute_err_iff (s : Struct) (dim old new : String) :
    (∃ e, s.renameAttribute dim old new = .error e) ↔
      match s.dims.lookup dim with
      | none => True
      | some d => (d.attrs.lookup old).isNone ∨ (d.attrs.lookup new).isSome := by
  unfold Struct.renameAttribute
  rw [onDim_err_iff]
  cases s.dims.lookup dim with
  | none => rfl
  | some d =>
    dsimp only
    rw [isError_iff]
    simp only [Dim.renameAttribute_ok]
    cases d.attrs.lookup old <;> cases d.attrs.lookup new <;> simp

/-- `rekey` succeeds exactly when the master key holds every right of the policy -/
theorem rekey_ok_iff (msk : Msk) (rights : List Right) (n : Rng) :
    (rekey msk rights n).1 = .ok () ↔ ∀ r ∈ rights, (msk.secrets.getLatest r).isSome := by
  rcases rekey_cases msk rights n with ⟨⟨r, hr, hn⟩, e⟩ | ⟨hall, e⟩ <;> rw [e]
  · exact ⟨fun h => (nomatch h), fun h => by have := h r hr; rw [hn] at this; cases this⟩
  · exact ⟨fun _ => hall, fun _ => rfl⟩

/-- `update_msk` fails exactly when the structure defines a right that would be born disabled -/
theorem update_err_iff (msk : Msk) (rights : List (Right × Bool × Bool)) (n : Rng) :
    (∃ e, (updateMsk msk rights n).1 = .error e) ↔
      ∃ p ∈ rights, p.2.2 = true ∧ msk.secrets.getLatest p.1 = none := by
  rcases updateMsk_cases msk rights n with ⟨h, e⟩ | ⟨hall, s, _, e⟩ <;> rw [e]
  · exact iff_of_true ⟨_, rfl⟩ h
  · refine iff_of_false (fun ⟨_, h⟩ => nomatch h) fun ⟨p, hp, hro, hn⟩ => ?_
    have := hall p hp hro
    rw [hn] at this; cases this

/-- key generation fails exactly when the master key lacks one of the rights of the policy -/
theorem latestRightSks_err_iff (msk : Msk) (rights : List Right) :
    (∃ e, latestRightSks msk rights = .error e) ↔ ∃ r ∈ rights, msk.secrets.getLatest r = none := by
  rw [isError_iff, latestRightSks_ok_iff]
  constructor
  · intro h
    exact Classical.byContradiction fun hn =>
      h fun r hr => Option.isSome_iff_ne_none.2 fun e => hn ⟨r, hr, e⟩
  · rintro ⟨r, hr, e⟩ h
    have := h r hr
    rw [e] at this; cases this

theorem keyOf_ok_iff (mpk : Mpk) (r : Right) :
    (∃ t, mpk.keyOf r = .ok t) ↔ (mpk.keys.lookup r).isSome = true := by
  unfold Mpk.keyOf
  cases mpk.keys.lookup r with
  | none => exact ⟨fun ⟨_, h⟩ => (nomatch h), fun h => (nomatch h)⟩
  | some k => exact ⟨fun _ => rfl, fun _ => ⟨k, rfl⟩⟩

/-- encapsulation succeeds exactly when every targeted right has a published key -/
theorem encaps_ok_iff (mpk : Mpk) (targets : List Right) (n : Rng) :
    (∃ v, (encaps mpk targets n).1 = .ok v) ↔ ∀ r ∈ targets, (mpk.keys.lookup r).isSome = true := by
  constructor
  · rintro ⟨⟨s, x⟩, h⟩ r hr
    obtain ⟨t, -, ht⟩ := mapMExcept_of_mem (encaps_ok_spec h).1 hr
    exact (keyOf_ok_iff mpk r).1 ⟨t, ht⟩
  · intro h
    obtain ⟨ks, hks⟩ := mapMExcept_ok (f := mpk.keyOf) fun r hr => (keyOf_ok_iff mpk r).2 (h r hr)
    exact ⟨_, by unfold encaps Mpk.selectSubkeys; rw [hks]⟩

/-- **`refresh` succeeds exactly when** the key passes the integrity check, its identifier is
registered (and can be re-issued if its tracing level is outdated) and — without `keep` — every
right of the key that the master key still knows has a newest secret. -/
theorem refresh_ok_iff (msk : Msk) (usk : Usk) (keep : Bool) (n : Rng) :
    (refresh msk usk keep n).1 = .ok () ↔
      verify msk usk = true ∧ usk.id ∈ msk.users ∧ (usk.id.length = msk.ntracers ∨ msk.ntracers ≠ 0) ∧
      (keep = true ∨ ∀ r ∈ (usk.secrets.map (·.1)).filter (fun r => msk.secrets.containsKey r),
          (msk.secrets.getLatest r).isSome = true) :=
  CC.refresh_ok_iff msk usk keep n

/-- **An issued key stays refreshable**, with either flag: a key generated in a reachable world is
refreshable in every world reachable from there by any further operations. -/
theorem issued_key_always_refreshable (w : World) (hw : Reachable w) (p : AP) (rights : List Right)
    (hr : w.msk.structure_.uskRights p = .ok rights) (usk : Usk)
    (hk : (uskKeygen w.msk rights w.rng).1 = .ok usk) (ops : List Op) (keep : Bool) :
    (refresh (ops.foldl World.step (w.step (.keygen p))).msk usk keep (ops.foldl World.step (w.step (.keygen p))).rng).1 = .ok () :=
  issued_refresh_ok _ ((hw.step _).steps ops) usk (issued_stable _ ops usk (keygen_step_issues hr hk)) keep

end CC.Props.C09
