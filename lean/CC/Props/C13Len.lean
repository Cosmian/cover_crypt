import CC.Props.C13
import CC.Lemmas.Leb
import CC.Model.WireLen
/-! # C13 — "serialization has exactly the announced length"

`length()` is computed without serialising (`CC.Model.WireLen`) and sizes the buffer. For every
well-formed object the announced length is the length of the encoding. -/

namespace CC.Props.C13
open CC CC.Wire

theorem wleb_length (n : Nat) : (wleb n).length = lebLen n := Leb.enc_length n

theorem lebLen_small (n : Nat) (h : n < 128) : lebLen n = 1 := by
  rw [lebLen, Leb.len, if_pos h]

theorem lebLen_flag (b : Bool) : lebLen (if b then 1 else 0) = 1 :=
  lebLen_small _ (by split <;> decide)

theorem wvec_length (b : Bytes) : (wvec b).length = lenNamed b 0 := by
  rw [wvec, List.length_append, wleb_length, lenNamed, Nat.add_zero]

theorem length_flatMap_eq {α : Type} (l : List α) {f : α → Bytes} {g : α → Nat}
    (h : ∀ x ∈ l, (f x).length = g x) : (l.flatMap f).length = (l.map g).sum := by
  rw [List.length_flatMap, List.map_congr_left h]

theorem length_flatten_eq (l : List Bytes) {k : Nat} (h : ∀ x ∈ l, x.length = k) :
    l.flatten.length = (l.map (fun _ => k)).sum := by
  rw [List.length_flatten, List.map_congr_left h]

theorem attr_length (a : WAttr) (h : WfAttr a) : (encAttr a).length = lenNamed a.name (lenAttr a) := by
  obtain ⟨_, _, _, h4, h5⟩ := h
  simp only [encAttr, List.length_append, wvec_length, wleb_length, lenNamed, lenAttr,
    lebLen_small a.hint (Nat.lt_of_le_of_lt h4 (by decide)), lebLen_small a.status (Nat.lt_of_le_of_lt h5 (by decide))]
  omega

theorem dim_length (d : WDim) (h : WfDim d) : (encDim d).length = lenNamed d.name (lenDim d) := by
  obtain ⟨_, _, h3, _, h5⟩ := h
  simp only [encDim, List.length_append, wvec_length, wleb_length, lenNamed, lenDim,
    lebLen_small d.ordered (Nat.lt_of_le_of_lt h3 (by decide)),
    length_flatMap_eq d.attrs (fun a ha => attr_length a (h5 a ha))]
  omega

theorem struct_length (s : WStruct) (h : WfStruct s) : (encStruct s).length = lenStruct s := by
  obtain ⟨hv, _, h3⟩ := h
  have hd := length_flatMap_eq s.dims (fun d hd => dim_length d (h3 d hd))
  rcases hv with ⟨hv, n, hn, _⟩ | ⟨hv, hn, _⟩
  · simp only [encStruct, lenStruct, hn, hv, List.length_append, wleb_length, hd, lebLen_small 1 (by decide)]
  · simp only [encStruct, lenStruct, hn, hv, List.length_append, wleb_length, hd, lebLen_small 0 (by decide),
      List.length_nil]

theorem key_length (la lb : Nat) (k : WKey) (h : WfKey la lb k) : (encKey k).length = lenKey la lb k := by
  obtain ⟨h1, h2⟩ := h
  simp only [encKey, lenKey, List.length_append, wleb_length, lebLen_flag, h1]
  split at h2
  · next hh => rw [if_pos hh, h2, Nat.add_assoc]
  · next hh => rw [if_neg hh, h2, List.length_nil, Nat.add_zero]

theorem mpk_length (c : Cfg) (m : WMpk) (h : WfMpk c m) : (encMpk m).length = lenMpk c m := by
  obtain ⟨_, _, h3, _, h5, h6⟩ := h
  simp only [encMpk, lenMpk, lenTpk, List.length_append, wleb_length, struct_length _ h6,
    length_flatten_eq m.tpk (fun p hp => (h3 p hp).1)]
  rw [length_flatMap_eq m.keys fun p hp => by
    rw [List.length_append, wvec_length, key_length _ _ _ (h5 p hp).2.1]]

theorem userId_length (c : Cfg) (u : List Bytes) (h : ∀ x ∈ u, WfLeafSk c x) :
    (encUserId u).length = lenUserId c u := by
  rw [encUserId, lenUserId, List.length_append, wleb_length, length_flatten_eq u (fun p hp => (h p hp).1)]

theorem msk_length (c : Cfg) (m : WMsk) (h : WfMsk c m) : (encMsk m).length = lenMsk c m := by
  obtain ⟨hs, _, _, ht, _, hu, _, hsec, ⟨k, hk, _⟩, hst⟩ := h
  simp only [encMsk, lenMsk, lenTsk, List.length_append, wleb_length, hk, hs.1, struct_length _ hst]
  rw [length_flatMap_eq m.tracers fun t htm => by
      rw [List.length_append, (ht t htm).1.1, (ht t htm).2.1],
    length_flatMap_eq m.users fun u hum => userId_length c u (hu u hum).2.2,
    length_flatMap_eq m.secrets fun p hp => by
      rw [List.length_append, List.length_append, wvec_length, wleb_length,
        length_flatMap_eq p.2 fun q hq => by
          rw [List.length_append, wleb_length, lebLen_flag, key_length _ _ _ ((hsec p hp).2.2 q hq).1]]]
  omega

theorem usk_length (c : Cfg) (u : WUsk) (h : WfUsk c u) : (encUsk u).length = lenUsk c u := by
  obtain ⟨_, _, hid, _, hps, _, hsec, _⟩ := h
  simp only [encUsk, lenUsk, List.length_append, wleb_length, userId_length c u.id hid,
    length_flatten_eq u.ps (fun p hp => (hps p hp).1)]
  rw [length_flatMap_eq u.secrets fun p hp => by
    rw [List.length_append, List.length_append, wvec_length, wleb_length,
      length_flatMap_eq p.2 fun q hq => key_length _ _ _ ((hsec p hp).2.2.2 q hq).1]]
  cases u.signature <;> rfl

theorem xenc_length (c : Cfg) (x : WEnc) (h : WfEnc c x) : (encXenc x).length = lenXenc c x := by
  obtain ⟨h1, _, _, h4, _, h6⟩ := h
  have ht := length_flatten_eq x.c (fun p hp => (h4 p hp).1)
  simp only [encXenc, lenXenc, lenEncs, List.length_append, wleb_length, lebLen_flag, ht, h1]
  split
  · next hh =>
    rw [length_flatMap_eq x.encs fun p hp => by
      rw [List.length_append, (if_pos hh ▸ (h6 p hp).2 :)]]
    simp only [Nat.add_assoc]
  · next hh =>
    rw [length_flatMap_eq x.encs fun p hp => by
      rw [(if_neg hh ▸ (h6 p hp).2 :), List.nil_append]]
    simp only [Nat.add_assoc]

/-- encrypted headers: absent metadata is announced as one byte (the empty vector) -/
theorem header_length (c : Cfg) (h : WHeader) (hx : WfEnc c h.enc) :
    (encHeader h).length = lenHeader c h := by
  simp only [encHeader, lenHeader, List.length_append, xenc_length c h.enc hx, wvec, wleb_length]
  cases h.mdata
  · rw [List.length_nil, lebLen_small 0 (by decide)]
  · rfl

theorem clear_length (cl : WClear) (hs : cl.secret.length = SS) : (encClear cl).length = lenClear cl := by
  simp only [encClear, lenClear, List.length_append, wvec, wleb_length, hs]
  cases cl.mdata
  · simp only [List.length_nil, Option.map_none, Option.getD_none, Nat.add_assoc]
  · simp only [Option.map_some, Option.getD_some, Nat.add_assoc]

end CC.Props.C13
