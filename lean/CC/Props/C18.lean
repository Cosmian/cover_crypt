import CC.Lemmas.World
/-! # C18 — re-encapsulation with the master key preserves the audience -/

namespace CC.Props.C18
open CC

/-- `full_decaps` recovers the encapsulated secret and the rights whose newest secret is activated
and one of whose secrets (of any revision) opens a component -/
theorem fullDecaps_spec (msk : Msk) (enc : XEnc) (s : Nat) (rights : List Right)
    (h : fullDecaps msk enc = .ok (s, rights)) :
    s = enc.seed ∧ rights ≠ [] ∧ ∀ r, r ∈ rights ↔ ∃ chain sk, (r, chain) ∈ msk.secrets ∧
      chain.head? = some (true, sk) ∧ msk.auth = enc.auth ∧ msk.ntracers = enc.ntraps ∧
      ∃ p ∈ chain, ∃ t ∈ enc.targets, opens enc.hybrid p.2 t = true := by
  unfold fullDecaps at h
  by_cases h1 : enc.ntraps = 0
  · rw [if_pos h1] at h; cases h
  by_cases h2 : msk.ntracers = 0
  · rw [if_neg h1, if_pos h2] at h; cases h
  rw [if_neg h1, if_neg h2] at h
  dsimp only at h
  split at h
  · cases h
  rename_i hne
  cases h
  refine ⟨rfl, mt List.isEmpty_iff.2 hne, fun r => ?_⟩
  rw [List.mem_filterMap]
  constructor
  · rintro ⟨⟨r', chain⟩, hm, hh⟩
    split at hh
    · rename_i sk hhead
      split at hh
      · rename_i hc
        cases hh
        exact ⟨chain, sk, hm, hhead, hc.1, hc.2.1, by simpa only [List.any_eq_true] using hc.2.2⟩
      · cases hh
    · cases hh
  · rintro ⟨chain, sk, hm, hhead, ha, hn, hex⟩
    refine ⟨(r, chain), hm, ?_⟩
    rw [hhead]
    exact if_pos ⟨ha, hn, by simpa only [List.any_eq_true] using hex⟩

/-- re-encapsulation draws a new secret and targets the published keys of exactly the recovered
rights, in the flavour they all support -/
theorem recaps_spec (msk : Msk) (mpk : Mpk) (enc : XEnc) (n : Rng) (s' : Nat) (x' : XEnc)
    (h : (recaps msk mpk enc n).1 = .ok (s', x')) :
    ∃ s rights, fullDecaps msk enc = .ok (s, rights) ∧ s' = n ∧ x'.seed = n ∧
      mapMExcept mpk.keyOf rights = .ok x'.targets ∧ x'.hybrid = x'.targets.all (·.hyb) ∧
      x'.auth = mpk.auth ∧ x'.ntraps = mpk.ntracers := by
  unfold recaps at h
  split at h
  · cases h
  · rename_i s rights hf
    obtain ⟨h1, h2, h3, h4, h5, h6⟩ := encaps_ok_spec h
    exact ⟨s, rights, hf, h6, h5, h1, h2, h3, h4⟩

/-- it fails when no right can be recovered -/
theorem recaps_fails_when_nothing_recovered (msk : Msk) (mpk : Mpk) (enc : XEnc) (n : Rng) (e : Err)
    (h : fullDecaps msk enc = .error e) : (recaps msk mpk enc n).1 = .error e := by
  unfold recaps; rw [h]

/-- a user key holding the newest secret of a recovered, published right opens the new encapsulation -/
theorem uptodate_key_opens_recaps (usk : Usk) (x' : XEnc) (r : Right) (c : List Sk) (pk : Sk)
    (hshape : usk.auth = x'.auth ∧ usk.nps = x'.ntraps ∧ usk.id.length = x'.ntraps)
    (hm : (r, c) ∈ usk.secrets) (hpk : pk ∈ c) (ht : pk ∈ x'.targets)
    (hflav : x'.hybrid = x'.targets.all (·.hyb)) : decaps usk x' = some x'.seed :=
  (decaps_eq_some_iff usk x' x'.seed).2
    ⟨rfl, hshape.1, hshape.2.1, hshape.2.2, r, c, pk, pk, hm, hpk, ht, opens_self hflav ht⟩

/-- **… and no other key does, over every history.** In any reachable world, a user key whose
secrets are master secrets of the right they are filed under (as after a generation or a refresh)
and none of whose rights was recovered does not open the re-encapsulation. -/
theorem no_other_key_opens_recaps (w : World) (hw : Reachable w) (enc : XEnc) (n : Rng) (s' : Nat) (x' : XEnc)
    (h : (recaps w.msk w.msk.mpk enc n).1 = .ok (s', x'))
    (usk : Usk)
    (hfaith : ∀ r c, (r, c) ∈ usk.secrets → ∀ k ∈ c, ∃ mc, (r, mc) ∈ w.msk.secrets ∧ k ∈ mc.map (·.2))
    (hdisj : ∀ s rights, fullDecaps w.msk enc = .ok (s, rights) → ∀ r c, (r, c) ∈ usk.secrets → r ∉ rights) :
    decaps usk x' = none := by
  obtain ⟨s, rights, hfd, _, _, htargets, _, _, _⟩ := recaps_spec w.msk w.msk.mpk enc n s' x' h
  have hinv := reachable_inv w hw
  apply (decaps_eq_none_iff usk x').2
  rintro ⟨_, _, _, r, c, k, t, hm, hk, ht, ho⟩
  obtain ⟨r', hr', hkey⟩ := (mapMExcept_mem htargets).1 ht
  obtain ⟨mc, hmc, hkin⟩ := hfaith r c hm k hk
  obtain ⟨v, hv, rfl⟩ := List.mem_map.1 hkin
  cases hinv.distinct.right_of_opens hmc hv hkey ho
  exact hdisj s rights hfd r c hm hr'

end CC.Props.C18
