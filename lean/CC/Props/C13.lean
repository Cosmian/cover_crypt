import CC.Lemmas.Wire
/-! # C13 — serialized objects are faithful and stable

For every wire type: decoding the encoding of a well-formed value (followed by anything) gives back
exactly that value and the rest. Well-formedness (`Wf…`: leaf sizes, counts and lengths below 2^64,
flags in range, UTF-8 names) is explicit; the correspondence check shows that the real code produces
such values. The element lemmas `…_inv` are stated in the form `counted_flatMap` takes. -/

namespace CC.Props.C13
open CC CC.Wire

def WfAttr (a : WAttr) : Prop :=
  validUtf8 a.name = true ∧ a.name.length < 2 ^ 64 ∧ a.id < 2 ^ 64 ∧ a.hint ≤ 1 ∧ a.status ≤ 1

theorem attr_roundtrip (a : WAttr) (h : WfAttr a) (rest : Bytes) : attr (encAttr a ++ rest) = some (a, rest) := by
  obtain ⟨h1, h2, h3, h4, h5⟩ := h
  simp only [attr, encAttr, List.append_assoc, vec_wvec h2, h1, Bool.not_true, Bool.false_eq_true, if_false,
    leb_wleb _ h3, leb_wleb _ (Nat.lt_of_le_of_lt h4 (by decide)), leb_wleb _ (Nat.lt_of_le_of_lt h5 (by decide)),
    Nat.not_lt.2 h4, Nat.not_lt.2 h5]

def WfDim (d : WDim) : Prop :=
  validUtf8 d.name = true ∧ d.name.length < 2 ^ 64 ∧ d.ordered ≤ 1 ∧ d.attrs.length < 2 ^ 64 ∧
    ∀ a ∈ d.attrs, WfAttr a

theorem dim_roundtrip (d : WDim) (h : WfDim d) (rest : Bytes) : dim (encDim d ++ rest) = some (d, rest) := by
  obtain ⟨h1, h2, h3, h4, h5⟩ := h
  simp only [dim, encDim, List.append_assoc, vec_wvec h2, h1, Bool.not_true, Bool.false_eq_true, if_false,
    leb_wleb _ (Nat.lt_of_le_of_lt h3 (by decide)), leb_wleb _ h4,
    many_flatMap fun a ha => attr_roundtrip a (h5 a ha), Nat.not_lt.2 h3]

def WfStruct (s : WStruct) : Prop :=
  ((s.version = 1 ∧ ∃ n, s.nextId = some n ∧ n < 2 ^ 64) ∨
    (s.version = 0 ∧ s.nextId = none ∧ ∀ d ∈ s.dims, ∀ a ∈ d.attrs, a.id + 1 < 2 ^ 64)) ∧
    s.dims.length < 2 ^ 64 ∧ ∀ d ∈ s.dims, WfDim d

theorem struct_roundtrip (s : WStruct) (h : WfStruct s) (rest : Bytes) :
    struct_ (encStruct s ++ rest) = some (s, rest) := by
  obtain ⟨hv, h2, h3⟩ := h
  have hm := many_flatMap (fun d hd => dim_roundtrip d (h3 d hd)) rest
  obtain ⟨version, nextId, dims⟩ := s
  rcases hv with ⟨rfl, n, rfl, hlt⟩ | ⟨rfl, rfl, hids⟩
  · simp only [struct_, encStruct, List.append_assoc, leb_wleb 1 (by decide), Nat.lt_irrefl, if_false,
      if_true, leb_wleb _ hlt, Option.map_some, leb_wleb _ h2, hm, Nat.one_ne_zero, false_and]
  · -- the reader's test for an identifier without successor finds none
    have hany : dims.any (fun d => d.attrs.any (fun a => decide (2 ^ 64 ≤ a.id + 1))) = false :=
      List.any_eq_false.2 fun d hd hd' =>
        let ⟨a, ha, h⟩ := List.any_eq_true.1 hd'
        Nat.not_le.2 (hids d hd a ha) (of_decide_eq_true h)
    simp only [struct_, encStruct, List.append_assoc, leb_wleb 0 (by decide), Nat.not_lt_zero, if_false,
      Nat.zero_ne_one, List.nil_append, leb_wleb _ h2, hm, hany, Bool.false_eq_true, and_false]

def WfLeafPk (c : Cfg) (p : Bytes) : Prop := p.length = c.pk ∧ c.validPk p = true
def WfLeafSk (c : Cfg) (p : Bytes) : Prop := p.length = c.sk ∧ c.validSk p = true

theorem sk_inv {c : Cfg} {b : Bytes} (h : WfLeafSk c b) (r : Bytes) : sk c (b ++ r) = some (b, r) := by
  simp only [sk, takeN_append h.1, h.2, if_true]

theorem pk_inv {c : Cfg} {b : Bytes} (h : WfLeafPk c b) (r : Bytes) : pk c (b ++ r) = some (b, r) := by
  simp only [pk, takeN_append h.1, h.2, if_true]

/-- second leaf present iff hybridized -/
def WfKey (la lb : Nat) (k : WKey) : Prop :=
  k.a.length = la ∧ (if k.hyb then k.b.length = lb else k.b = [])

theorem key_roundtrip {first : Dec Bytes} {la lb : Nat} {k : WKey} (h : WfKey la lb k) (rest : Bytes)
    (hfirst : ∀ r, first (k.a ++ r) = some (k.a, r)) :
    key first lb (encKey k ++ rest) = some (k, rest) := by
  obtain ⟨hyb, a, b⟩ := k
  have hb := h.2
  simp only [key, encKey, List.append_assoc, leb_flag, hfirst]
  cases hyb with
  | true => simp only [if_true, takeN_append hb]
  | false =>
    simp only [show b = [] from hb, Bool.false_eq_true, if_false, if_true, Nat.zero_ne_one, List.nil_append]

theorem key_sk_inv (c : Cfg) (k : WKey) (h : WfKey c.sk c.dk k ∧ c.validSk k.a = true) (r : Bytes) :
    key (sk c) c.dk (encKey k ++ r) = some (k, r) :=
  key_roundtrip h.1 r (sk_inv ⟨h.1.1, h.2⟩)

def WfEnc (c : Cfg) (x : WEnc) : Prop :=
  x.tag.length = TAG ∧ x.c ≠ [] ∧ x.c.length < 2 ^ 64 ∧ (∀ p ∈ x.c, p.length = c.pk ∧ c.validPk p = true) ∧
    x.encs.length < 2 ^ 64 ∧
    ∀ p ∈ x.encs, p.2.length = SS ∧ (if x.hyb then p.1.length = c.enc else p.1 = [])

theorem encItemH_inv (c : Cfg) (p : Bytes × Bytes) (h : p.2.length = SS ∧ p.1.length = c.enc) (r : Bytes) :
    encItemH c ((p.1 ++ p.2) ++ r) = some (p, r) := by
  simp only [encItemH, List.append_assoc, takeN_append h.2, takeN_append h.1, Option.map_some]

theorem encItemC_inv (p : Bytes × Bytes) (h : p.2.length = SS ∧ p.1 = []) (r : Bytes) :
    encItemC ((p.1 ++ p.2) ++ r) = some (p, r) := by
  obtain ⟨p1, p2⟩ := p
  obtain ⟨h2, rfl⟩ := h
  simp only [encItemC, List.nil_append, takeN_append h2, Option.map_some]

theorem xenc_roundtrip (c : Cfg) (x : WEnc) (h : WfEnc c x) (rest : Bytes) :
    xenc c (encXenc x ++ rest) = some (x, rest) := by
  obtain ⟨h1, h2, h3, h4, h5, h6⟩ := h
  obtain ⟨tag, cs, hyb, encs⟩ := x
  simp only [xenc, encXenc, List.append_assoc, takeN_append h1,
    counted_flatten true h3 (fun _ => h2) h4 (@pk_inv c), leb_flag]
  cases hyb with
  | true =>
    simp only [if_true, counted_flatMap false h5 nofun h6 (encItemH_inv c), Option.map_some]
  | false =>
    simp only [Bool.false_eq_true, if_false, if_true, Nat.zero_ne_one,
      counted_flatMap false h5 nofun h6 encItemC_inv, Option.map_some]

/-- absent and empty metadata are the same bytes: an empty ciphertext is read back as absent -/
def normMdata : Option Bytes → Option Bytes
  | some [] => none
  | m => m

theorem normMdata_some (b : Bytes) : (if b.isEmpty then none else some b) = normMdata (some b) := by
  cases b <;> rfl

theorem normMdata_eq_self {md : Option Bytes} (h : ∀ b, md = some b → b ≠ []) : normMdata md = md := by
  match md, h with
  | none, _ => rfl
  | some [], h => exact absurd rfl (h [] rfl)
  | some (_ :: _), _ => rfl

theorem header_roundtrip (c : Cfg) (h : WHeader) (hx : WfEnc c h.enc)
    (hm : ∀ b, h.mdata = some b → b.length < 2 ^ 64) (rest : Bytes) :
    header c (encHeader h ++ rest) = some (⟨h.enc, normMdata h.mdata⟩, rest) := by
  simp only [header, encHeader, List.append_assoc, xenc_roundtrip c h.enc hx]
  cases hmd : h.mdata with
  | none => simp only [vec_wvec (b := []) (by decide)]; rfl
  | some b => simp only [vec_wvec (hm b hmd), Option.map_some, normMdata_some]

theorem clear_roundtrip (cl : WClear) (hs : cl.secret.length = SS)
    (hm : ∀ b, cl.mdata = some b → b.length < 2 ^ 64) (rest : Bytes) :
    clear (encClear cl ++ rest) = some (⟨cl.secret, normMdata cl.mdata⟩, rest) := by
  simp only [clear, encClear, List.append_assoc, takeN_append hs]
  cases hmd : cl.mdata with
  | none => simp only [vec_wvec (b := []) (by decide)]; rfl
  | some b => simp only [vec_wvec (hm b hmd), Option.map_some, normMdata_some]

def WfMpk (c : Cfg) (m : WMpk) : Prop :=
  m.tpk ≠ [] ∧ m.tpk.length < 2 ^ 64 ∧ (∀ p ∈ m.tpk, WfLeafPk c p) ∧ m.keys.length < 2 ^ 64 ∧
    (∀ p ∈ m.keys, p.1.length < 2 ^ 64 ∧ WfKey c.pk c.ek p.2 ∧ c.validPk p.2.a = true) ∧ WfStruct m.structure_

theorem mpkItem_inv (c : Cfg) (p : Bytes × WKey)
    (h : p.1.length < 2 ^ 64 ∧ WfKey c.pk c.ek p.2 ∧ c.validPk p.2.a = true) (r : Bytes) :
    mpkItem c ((wvec p.1 ++ encKey p.2) ++ r) = some (p, r) := by
  simp only [mpkItem, List.append_assoc, vec_wvec h.1,
    key_roundtrip h.2.1 r (pk_inv ⟨h.2.1.1, h.2.2⟩), Option.map_some]

theorem mpk_roundtrip (c : Cfg) (m : WMpk) (h : WfMpk c m) (rest : Bytes) :
    mpk c (encMpk m ++ rest) = some (m, rest) := by
  obtain ⟨h1, h2, h3, h4, h5, h6⟩ := h
  simp only [mpk, encMpk, List.append_assoc, counted_flatten true h2 (fun _ => h1) h3 (@pk_inv c),
    counted_flatMap false h4 nofun h5 (mpkItem_inv c), struct_roundtrip _ h6]

def WfUsk (c : Cfg) (u : WUsk) : Prop :=
  u.id ≠ [] ∧ u.id.length < 2 ^ 64 ∧ (∀ p ∈ u.id, WfLeafSk c p) ∧
    u.ps.length < 2 ^ 64 ∧ (∀ p ∈ u.ps, WfLeafPk c p) ∧ u.secrets.length < 2 ^ 64 ∧
    (∀ p ∈ u.secrets, p.1.length < 2 ^ 64 ∧ p.2 ≠ [] ∧ p.2.length < 2 ^ 64 ∧
      ∀ k ∈ p.2, WfKey c.sk c.dk k ∧ c.validSk k.a = true) ∧
    (∀ s, u.signature = some s → s.length = SIG)

theorem uskItem_inv (c : Cfg) (p : Bytes × List WKey)
    (h : p.1.length < 2 ^ 64 ∧ p.2 ≠ [] ∧ p.2.length < 2 ^ 64 ∧ ∀ k ∈ p.2, WfKey c.sk c.dk k ∧ c.validSk k.a = true)
    (r : Bytes) :
    uskItem c ((wvec p.1 ++ (wleb p.2.length ++ p.2.flatMap encKey)) ++ r) = some (p, r) := by
  simp only [uskItem, List.append_assoc, vec_wvec h.1, Option.map_some,
    counted_flatMap false h.2.2.1 nofun h.2.2.2 (key_sk_inv c)]

/-- user keys (any number of rights and revisions, classic or hybridized, signed); through `deserialize`: the
reader recognises the signature by the length of what remains, so the form with a `rest` is false -/
theorem usk_roundtrip (c : Cfg) (u : WUsk) (h : WfUsk c u) (hsig : u.signature ≠ none) :
    deserialize (usk c) (encUsk u) = some u := by
  obtain ⟨h1, h2, h3, h4, h5, h6, h7, h8⟩ := h
  obtain ⟨uid, ps, secrets, _ | s⟩ := u
  · exact absurd rfl hsig
  have hs : s.length = SIG := h8 s rfl
  have htake : takeN SIG s = some (s, []) := by
    have := takeN_append (rest := []) hs
    rwa [List.append_nil] at this
  have hfilter : secrets.filter (fun p => !p.2.isEmpty) = secrets :=
    List.filter_eq_self.2 fun p hp => by simpa using (h7 p hp).2.1
  refine deserialize_of_inv ?_ ?nonempty
  simp only [usk, userId, encUsk, encUserId, List.append_assoc,
    counted_flatten true h2 (fun _ => h1) h3 (@sk_inv c),
    counted_flatten false h4 nofun h5 (@pk_inv c),
    counted_flatMap false h6 nofun h7 (uskItem_inv c), hfilter,
    if_neg (Nat.not_lt.2 (Nat.le_of_eq hs.symm)), htake, Option.map_some]
  case nonempty =>
    rw [encUsk, encUserId]
    simp only [List.append_assoc]
    exact List.append_ne_nil_of_left_ne_nil (Leb.enc_ne_nil _) _

def WfMsk (c : Cfg) (m : WMsk) : Prop :=
  WfLeafSk c m.s ∧ m.tracers ≠ [] ∧ m.tracers.length < 2 ^ 64 ∧ (∀ t ∈ m.tracers, WfLeafSk c t.1 ∧ WfLeafPk c t.2) ∧
    m.users.length < 2 ^ 64 ∧ (∀ u ∈ m.users, u ≠ [] ∧ u.length < 2 ^ 64 ∧ ∀ x ∈ u, WfLeafSk c x) ∧
    m.secrets.length < 2 ^ 64 ∧
    (∀ p ∈ m.secrets, p.1.length < 2 ^ 64 ∧ p.2.length < 2 ^ 64 ∧ ∀ q ∈ p.2, WfKey c.sk c.dk q.2 ∧ c.validSk q.2.a = true) ∧
    (∃ k, m.signingKey = some k ∧ k.length = SIGK) ∧ WfStruct m.structure_

theorem tracer_inv (c : Cfg) (t : Bytes × Bytes) (h : WfLeafSk c t.1 ∧ WfLeafPk c t.2) (r : Bytes) :
    tracer c ((t.1 ++ t.2) ++ r) = some (t, r) := by
  simp only [tracer, List.append_assoc, sk_inv h.1, pk_inv h.2, Option.map_some]

theorem userId_inv (c : Cfg) (u : List Bytes) (h : u ≠ [] ∧ u.length < 2 ^ 64 ∧ ∀ x ∈ u, WfLeafSk c x)
    (r : Bytes) : userId c (encUserId u ++ r) = some (u, r) := by
  rw [encUserId, List.append_assoc]
  exact counted_flatten true h.2.1 (fun _ => h.1) h.2.2 (@sk_inv c) r

theorem mskChainItem_inv (c : Cfg) (q : Bool × WKey) (h : WfKey c.sk c.dk q.2 ∧ c.validSk q.2.a = true)
    (r : Bytes) : mskChainItem c ((wleb (if q.1 then 1 else 0) ++ encKey q.2) ++ r) = some (q, r) := by
  obtain ⟨b, k⟩ := q
  simp only [mskChainItem, List.append_assoc, leb_flag, key_sk_inv c k h]
  cases b <;> rfl

theorem mskItem_inv (c : Cfg) (p : Bytes × List (Bool × WKey))
    (h : p.1.length < 2 ^ 64 ∧ p.2.length < 2 ^ 64 ∧ ∀ q ∈ p.2, WfKey c.sk c.dk q.2 ∧ c.validSk q.2.a = true)
    (r : Bytes) :
    mskItem c ((wvec p.1 ++ (wleb p.2.length ++
      p.2.flatMap (fun q => wleb (if q.1 then 1 else 0) ++ encKey q.2))) ++ r) = some (p, r) := by
  simp only [mskItem, List.append_assoc, vec_wvec h.1, Option.map_some,
    counted_flatMap false h.2.1 nofun h.2.2 (mskChainItem_inv c)]

/-- master keys (any number of tracers, users, rights and revisions, signing key present) -/
theorem msk_roundtrip (c : Cfg) (m : WMsk) (h : WfMsk c m) (rest : Bytes) :
    msk c (encMsk m ++ rest) = some (m, rest) := by
  obtain ⟨h1, h2, h3, h4, h5, h6, h7, h8, ⟨k, hk, hkl⟩, h10⟩ := h
  obtain ⟨s, tracers, users, secrets, sig, st⟩ := m
  subst hk
  have hlen : ¬ ((k ++ (encStruct st ++ rest)).length < SIGK) := by
    rw [List.length_append, hkl]; exact Nat.not_lt.2 (Nat.le_add_right _ _)
  simp only [msk, encMsk, List.append_assoc, sk_inv h1,
    counted_flatMap true h3 (fun _ => h2) h4 (tracer_inv c),
    counted_flatMap false h5 nofun h6 (userId_inv c),
    counted_flatMap false h7 nofun h8 (mskItem_inv c),
    hlen, if_false, takeN_append hkl, Option.map_some, struct_roundtrip st h10]

/-- LEB128 round trip on the full `u64` range, and its announced length -/
theorem leb_roundtrip (n : Nat) (h : n < 2 ^ 64) (rest : Bytes) : leb (wleb n ++ rest) = some (n, rest) :=
  leb_wleb n h rest

/-- non-vacuity: a classic two-target encapsulation of the Curve25519 configuration -/
example : WfEnc cfgC25519 ⟨List.replicate 16 0, [List.replicate 32 1, List.replicate 32 2], false,
    [([], List.replicate 32 3), ([], List.replicate 32 4)]⟩ := by
  unfold WfEnc; decide

end CC.Props.C13
