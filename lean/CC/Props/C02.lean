import CC.Lemmas.Cover
import CC.Lemmas.Kem
import CC.Lemmas.World
/-! # C02 — unauthorized keys never recover a secret -/

namespace CC.Props.C02
open CC

/-- decapsulation never returns a secret other than the encapsulated one -/
theorem decaps_never_other (usk : Usk) (enc : XEnc) (v : Nat) (h : decaps usk enc = some v) :
    v = enc.seed :=
  ((decaps_eq_some_iff usk enc v).1 h).1

/-- a key none of whose secrets opens a component gets no secret -/
theorem decaps_none (usk : Usk) (enc : XEnc) (h : ¬ CanOpen usk enc) : decaps usk enc = none :=
  (decaps_eq_none_iff usk enc).2 h

/-- a key of another authority never opens -/
theorem foreign_key_none (usk : Usk) (enc : XEnc) (h : usk.auth ≠ enc.auth) : decaps usk enc = none :=
  decaps_none usk enc (fun hc => h hc.1)

/-- **C02, end to end on the model.** If no conjunction of the encryption policy is covered by the
user policy, the key generated for the user policy gets *nothing* from the encapsulation — not a
secret of any value. -/
theorem unauthorized_gets_nothing (msk : Msk) (hS : msk.structure_.WF) (hd : msk.Distinct) (u e : AP)
    (hu : Spec.policyWf msk.structure_ u = true) (he : Spec.policyWf msk.structure_ e = true)
    (ru re : List Right) (hru : msk.structure_.uskRights u = .ok ru) (hre : msk.mpk.structure_.encRights e = .ok re)
    (n n' : Rng) (usk : Usk) (s : Nat) (x : XEnc)
    (hk : (uskKeygen msk ru n).1 = .ok usk) (hen : (encaps msk.mpk re n').1 = .ok (s, x))
    (hcov : Spec.covers msk.structure_ u e = false) : decaps usk x = none := by
  refine (keygen_encaps_decaps msk hd ru re n n' usk s x hk hen).2.2 fun hex => ?_
  rw [(rights_meet_iff hS hu he hru hre).1 hex] at hcov
  cases hcov

/-- **C02 over every history**: in every reachable world an unauthorised key gets nothing -/
theorem unauthorized_gets_nothing_reachable (w : World) (hw : Reachable w) (u e : AP)
    (hu : Spec.policyWf w.msk.structure_ u = true) (he : Spec.policyWf w.msk.structure_ e = true)
    (ru re : List Right) (hru : w.msk.structure_.uskRights u = .ok ru) (hre : w.msk.mpk.structure_.encRights e = .ok re)
    (n n' : Rng) (usk : Usk) (s : Nat) (x : XEnc)
    (hk : (uskKeygen w.msk ru n).1 = .ok usk) (hen : (encaps w.msk.mpk re n').1 = .ok (s, x))
    (hcov : Spec.covers w.msk.structure_ u e = false) : decaps usk x = none :=
  unauthorized_gets_nothing w.msk (reachable_struct_wf w hw).1 (reachable_inv w hw).distinct u e hu he ru re hru hre n n' usk s x hk hen hcov

/-- a lower hierarchical attribute never opens a higher one: `x ≤ y` is the position order -/
theorem lower_never_covers_higher (d : Dim) (hord : d.ordered = true) (x y : String) (i j : Nat)
    (hx : Spec.pos d x = some i) (hy : Spec.pos d y = some j) (hlt : j < i) : Spec.leq d x y = false := by
  simp [Spec.leq, hx, hy, hord]; omega

/-- an attribute of an unordered dimension never opens a sibling -/
theorem sibling_never_covers (d : Dim) (hord : d.ordered = false) (x y : String) (hne : x ≠ y) :
    Spec.leq d x y = false := by
  refine Bool.eq_false_iff.2 fun h => hne ?_
  have := (leq_iff.1 h).2.2
  rwa [hord] at this

/-- non-vacuity: same right name, different secret (a stale key) -/
example : decaps
    { id := [7, 8], auth := 1, nps := 2, secrets := [([0], [⟨10, false⟩])], sig := none }
    { auth := 1, ntraps := 2, hybrid := false, targets := [⟨11, false⟩], seed := 99 } = none := by
  apply decaps_none
  rintro ⟨_, _, _, r, c, s, t, hm, hs, ht, ho⟩
  simp at hm ht
  obtain ⟨rfl, rfl⟩ := hm
  subst ht
  simp at hs
  subst hs
  simp [opens] at ho

end CC.Props.C02
