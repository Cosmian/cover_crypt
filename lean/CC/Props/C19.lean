import CC.Model.Sched
import CC.Lemmas.Assoc
/-! # C19 — a shared instance is safe and live under concurrent use (partial)

The lock structure of every API function is re-extracted from the source on every run
(`CC.Generated.lockTable`). That table is well nested (no acquisition and no call to a locking
function while the guard is held: the rule in the comment of `PkeAc::encrypt`); and for any number
of threads running any sequences of well-nested calls, every reachable configuration has at most one
thread inside a critical section, some thread can take a step while work remains, and every step
consumes an event. **Partial:** the Rust memory model, the implementation of `std::sync::Mutex`,
poisoning after a panic inside a critical section and OS scheduling are outside the model; the
multi-threaded stress run of the check supports that part. -/

namespace CC.Props.C19
open CC.Sched CC.Generated

theorem alt_iff : ∀ (held : Bool) (evs : List LockEv),
    Alt held evs ↔ wellNested held evs = true ∧ evs.all (fun e => e matches .acq | .rel) = true
  | false, [] => ⟨fun _ => ⟨rfl, rfl⟩, fun _ => rfl⟩
  | true, [] => ⟨nofun, fun h => nomatch h.1⟩
  | false, .acq :: rest => alt_iff true rest
  | true, .rel :: rest => alt_iff false rest
  | true, .acq :: _ | false, .rel :: _ | true, .call _ :: _ => ⟨False.elim, fun h => nomatch h.1⟩
  | false, .call _ :: _ => ⟨False.elim, fun h => nomatch h.2⟩

instance (held : Bool) (evs : List LockEv) : Decidable (Alt held evs) := decidable_of_iff' _ (alt_iff held evs)

/-- every API function, calls to `encaps` / `decaps` expanded, alternates acquire / release. By the
kernel alone: the elaborator's own evaluation would compare the table's strings a second time. -/
theorem table_alt : locksAvailable = true → ∀ p ∈ lockTable, Alt false (expand lockTable p.2) := by decide +kernel

/-- every API function, calls expanded, is well nested -/
theorem table_wellNested : locksAvailable = true →
    lockTable.all (fun p => wellNested false (expand lockTable p.2)) = true :=
  fun h => List.all_eq_true.2 fun p hp => ((alt_iff _ _).1 (table_alt h p hp)).1

/-- after expansion no call to a locking function remains unresolved -/
theorem table_callFree : locksAvailable = true →
    lockTable.all (fun p => (expand lockTable p.2).all (fun e => match e with | .call _ => false | _ => true)) = true :=
  fun ha => List.all_eq_true.2 fun p hp => by
    have h := ((alt_iff _ _).1 (table_alt ha p hp)).2
    rw [List.all_eq_true] at h ⊢
    intro e he
    have := h e he
    cases e <;> first | rfl | cases this

/-- the functions that draw from the instance's generator: each must take the lock around its
draws, directly or through the locking function it calls -/
def drawingFunctions : List String :=
  ["api::setup", "api::update_msk", "api::rekey", "api::generate_user_secret_key", "api::refresh_usk",
   "api::recaps", "api::encaps", "api::decaps", "api::encrypt", "header::generate"]

theorem drawing_functions_lock : locksAvailable = true →
    drawingFunctions.all (fun f => match lockTable.lookup f with
      | some evs => (expand lockTable evs).contains .acq
      | none => false) = true := by decide +kernel

def callFree (evs : List LockEv) : Prop := ∀ e ∈ evs, ∀ f, e ≠ .call f

theorem wellNested_alt : ∀ (held : Bool) (evs : List LockEv), wellNested held evs = true → callFree evs → Alt held evs :=
  fun held evs h hc => (alt_iff held evs).2
    ⟨h, List.all_eq_true.2 fun e he => by cases e <;> first | rfl | exact absurd rfl (hc _ he _)⟩

theorem inv_held {s : State} (h : Inv s) {i : Nat} {evs : List LockEv} (hi : s.threads[i]? = some evs)
    (hh : s.holder = some i) : Alt true evs := by simpa [hh] using h.1 i evs hi

theorem inv_free {s : State} (h : Inv s) {i : Nat} {evs : List LockEv} (hi : s.threads[i]? = some evs)
    (hh : s.holder ≠ some i) : Alt false evs := by simpa [hh] using h.1 i evs hi

theorem alt_false_cases {evs : List LockEv} (h : Alt false evs) : evs = [] ∨ ∃ rest, evs = .acq :: rest := by
  match evs, h with
  | [], _ => exact .inl rfl
  | .acq :: rest, _ => exact .inr ⟨rest, rfl⟩

theorem alt_true_cases {evs : List LockEv} (h : Alt true evs) : ∃ rest, evs = .rel :: rest := by
  match evs, h with
  | .rel :: rest, _ => exact ⟨rest, rfl⟩

/-- **mutual exclusion**: under the invariant a thread that does not hold the lock is outside any
critical section (its next lock event, if any, is an acquisition) -/
theorem mutex_excl (s : State) (hinv : Inv s) (i : Nat) (evs : List LockEv)
    (hi : s.threads[i]? = some evs) (hne : s.holder ≠ some i) :
    evs = [] ∨ ∃ rest, evs = .acq :: rest :=
  alt_false_cases (inv_free hinv hi hne)

/-- **no deadlock**: while some thread still has events, some thread can take a step -/
theorem progress (s : State) (hinv : Inv s) (hwork : ∃ (i : Nat) (evs : List LockEv), s.threads[i]? = some evs ∧ evs ≠ []) :
    ∃ s', Step s s' := by
  cases hh : s.holder with
  | some h =>
    have hget := List.getElem?_eq_getElem (hinv.2 h hh)
    obtain ⟨rest, hr⟩ := alt_true_cases (inv_held hinv hget hh)
    exact ⟨_, .rel s h rest hh (hr ▸ hget)⟩
  | none =>
    obtain ⟨i, evs, hi, hne⟩ := hwork
    obtain rfl | ⟨rest, rfl⟩ := alt_false_cases (inv_free hinv hi (by simp [hh]))
    · exact absurd rfl hne
    · exact ⟨_, .acq s i rest hh hi⟩

theorem inv_set {s : State} (hinv : Inv s) {i : Nat} (hlt : i < s.threads.length) {rest : List LockEv}
    {h' : Option Nat} (hoth : ∀ j, j ≠ i → (h' = some j ↔ s.holder = some j))
    (hrest : Alt (h' = some i) rest) : Inv ⟨h', s.threads.set i rest⟩ := by
  refine ⟨fun j evs hj => ?_, fun j hj => ?_⟩
  · by_cases hji : j = i
    · subst hji; rw [List.getElem?_set_self hlt] at hj; cases hj; exact hrest
    · rw [List.getElem?_set_ne (Ne.symm hji)] at hj
      simpa only [hoth j hji] using hinv.1 j evs hj
  · rw [List.length_set]
    by_cases hji : j = i
    · exact hji ▸ hlt
    · exact hinv.2 j ((hoth j hji).1 hj)

theorem preservation (s s' : State) (hinv : Inv s) (hstep : Step s s') : Inv s' := by
  cases hstep with
  | acq i rest hnone hi =>
    exact inv_set hinv (List.getElem?_eq_some_iff.1 hi).1 (fun j hji => by simp [hnone, Ne.symm hji])
      (by simpa [Alt] using inv_free hinv hi (by simp [hnone]))
  | rel i rest hhold hi =>
    exact inv_set hinv (List.getElem?_eq_some_iff.1 hi).1 (fun j hji => by simp [hhold, Ne.symm hji])
      (by simpa [Alt] using inv_held hinv hi hhold)

/-- any number of threads, each a concatenation of well-nested calls, start in the invariant -/
theorem init_inv (threads : List (List LockEv)) (h : ∀ t ∈ threads, Alt false t) :
    Inv { holder := none, threads := threads } :=
  ⟨fun i evs hi => by simpa using h evs (List.mem_of_getElem? hi), fun i hi => by cases hi⟩

/-- **no call blocks forever**: every step consumes one event, so every schedule ends after
`remaining` steps, with all calls completed (by `progress`) -/
theorem step_consumes (s s' : State) (hstep : Step s s') : remaining s' + 1 = remaining s := by
  cases hstep with
  | acq i rest _ hi | rel i rest _ hi =>
    have := sum_map_set List.length rest hi
    simp only [remaining, List.length_cons] at this ⊢
    omega

/-- non-vacuity: two threads, one running `encrypt` then `decaps`, the other `header::generate` -/
example : Inv { holder := none, threads := [[.acq, .rel, .acq, .rel, .acq, .rel], [.acq, .rel, .acq, .rel]] } :=
  init_inv _ (by decide)

end CC.Props.C19
