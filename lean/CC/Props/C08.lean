import CC.Model.Mac
import CC.Lemmas.Prims
import CC.Lemmas.Blocks
/-! # C08 — only user keys issued by the master key are accepted for refresh

KMAC is idealised: a tag verifies only for the exact byte stream it was computed on (`CC.Mac.input`).
`input` is not injective (finding D9: no length / count / flavour framing; two witnesses below), so the
property is proved among keys of the same shape, with the rejections that do not depend on framing. -/

namespace CC.Props.C08
open CC CC.Wire CC.Mac

def keyShape (k : WKey) : Bool × Nat × Nat := (k.hyb, k.a.length, k.b.length)
def chainShape (c : List WKey) : List (Bool × Nat × Nat) := c.map keyShape
def secretsShape (s : List (Bytes × List WKey)) : List (Nat × List (Bool × Nat × Nat)) :=
  s.map (fun p => (p.1.length, chainShape p.2))
/-- lengths of the markers, of the right names, of the chains and of every leaf, and the flavours -/
def shape (u : WUsk) : List Nat × List (Nat × List (Bool × Nat × Nat)) :=
  (u.id.map List.length, secretsShape u.secrets)

theorem key_inj (k1 k2 : WKey) (r1 r2 : Bytes) (hs : keyShape k1 = keyShape k2)
    (h : (k1.a ++ k1.b) ++ r1 = (k2.a ++ k2.b) ++ r2) : k1 = k2 ∧ r1 = r2 := by
  obtain ⟨hyb1, a1, b1⟩ := k1
  simp only [keyShape, Prod.mk.injEq] at hs
  simp only [List.append_assoc] at h
  obtain ⟨rfl, h'⟩ := List.append_inj h hs.2.1
  obtain ⟨rfl, h''⟩ := List.append_inj h' hs.2.2
  exact ⟨by rw [hs.1], h''⟩

theorem secrets_inj (s1 s2 : List (Bytes × List WKey)) (hl : secretsShape s1 = secretsShape s2)
    (h : s1.flatMap (fun p => p.1 ++ p.2.flatMap (fun k => k.a ++ k.b)) =
      s2.flatMap (fun p => p.1 ++ p.2.flatMap (fun k => k.a ++ k.b))) : s1 = s2 := by
  refine (flatMap_append_inj _ (fun p : Bytes × List WKey => (p.1.length, chainShape p.2)) ?_ s1 s2 [] [] hl
    (by rw [List.append_nil, List.append_nil]; exact h)).1
  rintro ⟨n1, c1⟩ ⟨n2, c2⟩ r1 r2 hs h
  simp only [Prod.mk.injEq] at hs
  simp only [List.append_assoc] at h
  obtain ⟨rfl, h'⟩ := List.append_inj h hs.1
  obtain ⟨rfl, h''⟩ := flatMap_append_inj _ keyShape key_inj c1 c2 r1 r2 hs.2 h'
  exact ⟨rfl, h''⟩

/-- **Partial C08.** Among keys of the same shape the MAC input determines the identifier, the
rights and the secrets in their exact arrangement. -/
theorem input_inj_same_shape (k1 k2 : WUsk) (hs : shape k1 = shape k2) (h : input k1 = input k2) :
    k1.id = k2.id ∧ k1.secrets = k2.secrets := by
  simp only [shape, Prod.mk.injEq] at hs
  obtain ⟨hid, hrest⟩ := flatten_append_inj k1.id k2.id _ _ hs.1 h
  exact ⟨hid, secrets_inj _ _ hs.2 hrest⟩

/-- a key of the same shape accepted on an issued key's signature *is* that issued key -/
theorem accepted_same_shape_is_issued (k0 k : WUsk) (hs : shape k = shape k0) (h : acceptedLike k0 k = true) :
    k.id = k0.id ∧ k.secrets = k0.secrets ∧ k.signature = k0.signature := by
  simp only [acceptedLike, verifiesLike, Bool.and_eq_true, decide_eq_true_eq] at h
  obtain ⟨⟨hsig, hin⟩, _⟩ := h
  obtain ⟨h1, h2⟩ := input_inj_same_shape k k0 hs hin
  exact ⟨h1, h2, hsig⟩

/-- a stripped or altered signature is rejected -/
theorem other_signature_rejected (k0 k : WUsk) (h : k.signature ≠ k0.signature) : acceptedLike k0 k = false := by
  simp [acceptedLike, verifiesLike, h]

/-- a different identifier is rejected -/
theorem other_id_rejected (k0 k : WUsk) (h : k.id ≠ k0.id) : acceptedLike k0 k = false := by
  simp [acceptedLike, h]

/-- any change that changes the MAC stream is rejected -/
theorem other_stream_rejected (k0 k : WUsk) (h : input k ≠ input k0) : acceptedLike k0 k = false := by
  simp [acceptedLike, verifiesLike, h]

/-- **D9, witness 1** (the full statement is false): the chain of right `i+1` folded into the
*name* of right `i` gives a different key with the same MAC stream. -/
theorem framing_ambiguity_name (id ps : List Bytes) (sig : Option Bytes) (r1 s1 r2 s2 : Bytes) :
    input ⟨id, ps, [(r1, [⟨false, s1, []⟩]), (r2, [⟨false, s2, []⟩])], sig⟩ =
      input ⟨id, ps, [(r1 ++ s1 ++ r2, [⟨false, s2, []⟩])], sig⟩ ∧
    (⟨id, ps, [(r1, [⟨false, s1, []⟩]), (r2, [⟨false, s2, []⟩])], sig⟩ : WUsk) ≠
      ⟨id, ps, [(r1 ++ s1 ++ r2, [⟨false, s2, []⟩])], sig⟩ := by
  constructor
  · simp only [input, List.flatMap_cons, List.append_nil, List.flatMap_nil, List.append_assoc]
  · exact fun h => nomatch (List.cons.inj (WUsk.mk.inj h).2.2.1).2

/-- **D9, witness 2**: the secret of the broadcast right (empty name) moved into the chain that
precedes it. -/
theorem framing_ambiguity_broadcast (id ps : List Bytes) (sig : Option Bytes) (r1 : Bytes) (k1 k2 : WKey) :
    input ⟨id, ps, [(r1, [k1]), ([], [k2])], sig⟩ = input ⟨id, ps, [(r1, [k1, k2])], sig⟩ ∧
    (⟨id, ps, [(r1, [k1]), ([], [k2])], sig⟩ : WUsk) ≠ ⟨id, ps, [(r1, [k1, k2])], sig⟩ := by
  constructor
  · simp only [input, List.flatMap_cons, List.flatMap_nil, List.nil_append, List.append_assoc]
  · exact fun h => nomatch (List.cons.inj (WUsk.mk.inj h).2.2.1).2

/-- in the key-management model: a key that fails `verify` is refused, neither key modified -/
theorem unverified_refused (msk : Msk) (usk : Usk) (keep : Bool) (n : Rng) (h : verify msk usk = false) :
    refresh msk usk keep n = (.error .keyError, msk, usk, n) := by
  simp [refresh, h]

/-- non-vacuity: two different keys of the same shape have different streams -/
example : shape ⟨[[1]], [], [([7], [⟨false, [2], []⟩])], none⟩ = shape ⟨[[1]], [], [([7], [⟨false, [3], []⟩])], none⟩ ∧
    input ⟨[[1]], [], [([7], [⟨false, [2], []⟩])], none⟩ ≠ input ⟨[[1]], [], [([7], [⟨false, [3], []⟩])], none⟩ := by
  decide

end CC.Props.C08
