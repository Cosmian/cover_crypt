import CC.Lemmas.Contig
/-! # C05 — revocation takes effect: pruned and deleted secrets leave refreshed keys -/

namespace CC.Props.C05
open CC

/-- the master key keeps exactly the newest secret of each pruned right -/
theorem prune_keeps_newest (m : RevMap) (r : Right) (c : List (Bool × Sk)) (h : m.lookup r = some c)
    (hne : c ≠ []) : (m.keep r 1).lookup r = some [c.head hne] := by
  rw [RevMap.lookup_keep, if_pos (beq_self_eq_true r), h]
  cases c with
  | nil => exact absurd rfl hne
  | cons a as => rfl

/-- pruning one right leaves every other right untouched -/
theorem prune_other_untouched (m : RevMap) (r k : Right) (h : k ≠ r) : (m.keep r 1).lookup k = m.lookup k := by
  rw [RevMap.lookup_keep, if_neg fun e => h (eq_of_beq e)]

/-- with `keep old secrets`, a refreshed key holds only secrets the master key still holds for that
right: nothing pruned survives a refresh -/
theorem refresh_keep_sub_master (msk : Msk) (chains : RevVec) (r : Right) (c : List Sk)
    (h : (r, c) ∈ refreshCoordinateKeys msk chains) :
    ∃ mchain, msk.secrets.get r = some mchain ∧ ∀ s ∈ c, s ∈ mchain.map (·.2) := by
  obtain ⟨u, mchain, -, hl, hc⟩ := mem_refreshCoordinateKeys.1 h
  exact ⟨mchain, hl, fun _ hs => (refreshChain_prefix _ _ _ hc).subset hs⟩

/-- with `keep old secrets`, a right that left the master key leaves the refreshed key -/
theorem refresh_keep_drops_deleted (msk : Msk) (chains : RevVec) (r : Right)
    (h : msk.secrets.get r = none) : ∀ c, (r, c) ∉ refreshCoordinateKeys msk chains := by
  intro c hc
  obtain ⟨mchain, hg, _⟩ := refresh_keep_sub_master msk chains r c hc
  rw [h] at hg; cases hg

/-- without `keep old secrets`, exactly the newest master secret of each right -/
theorem latest_only (msk : Msk) (rights : List Right) (chains : RevVec)
    (h : latestRightSks msk rights = .ok chains) :
    ∀ r c, (r, c) ∈ chains → ∃ act sk, msk.secrets.getLatest r = some (act, sk) ∧ c = [sk] :=
  fun r c hm => ((latestRightSks_mem msk rights chains h r c).1 hm).2

/-- a key holding only master secrets opens no encapsulation made under secrets the master key has
dropped -/
theorem pruned_secret_unusable (msk : Msk) (usk : Usk) (enc : XEnc)
    (hsub : ∀ r c, (r, c) ∈ usk.secrets → ∃ mchain, msk.secrets.get r = some mchain ∧ ∀ s ∈ c, s ∈ mchain.map (·.2))
    (hgone : ∀ t ∈ enc.targets, ∀ r mchain, msk.secrets.get r = some mchain → ∀ s ∈ mchain.map (·.2), s.tok ≠ t.tok) :
    decaps usk enc = none := by
  apply (decaps_eq_none_iff usk enc).2
  rintro ⟨_, _, _, r, c, s, t, hm, hs, ht, ho⟩
  obtain ⟨mchain, hg, hsm⟩ := hsub r c hm
  exact hgone t ht r mchain hg s (hsm s hs) (opens_tok ho)

/-- **Revocation takes effect, over every history.** In any reachable world, a key refreshed with
either flag cannot open an encapsulation whose components were all made under secrets the master
key has dropped (pruned, or of a deleted right). -/
theorem refreshed_key_cannot_use_removed (w : World) (hw : Reachable w) (usk : Usk) (keep : Bool)
    (hok : (refresh w.msk usk keep w.rng).1 = .ok ()) (enc : XEnc)
    (hgone : ∀ t ∈ enc.targets, ∀ r mchain, w.msk.secrets.get r = some mchain → ∀ s ∈ mchain.map (·.2), s.tok ≠ t.tok) :
    decaps (refresh w.msk usk keep w.rng).2.2.1 enc = none := by
  apply pruned_secret_unusable w.msk _ enc _ hgone
  intro r c hm
  obtain ⟨mchain, h1, h2, _, _⟩ := refresh_secrets_spec w.msk usk keep w.rng hok r c hm
  exact ⟨mchain, h1, fun _ hs => h2.subset hs⟩

/-- a refresh never *adds* a right to a key -/
theorem refresh_adds_no_right (w : World) (hw : Reachable w) (usk : Usk) (keep : Bool)
    (hok : (refresh w.msk usk keep w.rng).1 = .ok ()) :
    ∀ r c, (r, c) ∈ (refresh w.msk usk keep w.rng).2.2.1.secrets → ∃ uc, (r, uc) ∈ usk.secrets :=
  fun r c hm =>
    let ⟨_, _, _, _, h4⟩ := refresh_secrets_spec w.msk usk keep w.rng hok r c hm
    h4

/-- non-vacuity of `refresh_keep_sub_master`: master chain [9,5] after pruning [9,5,3]; user held [5,3] -/
example : refreshChain [⟨9, false⟩, ⟨5, false⟩] [⟨5, false⟩, ⟨3, false⟩] = some [⟨9, false⟩, ⟨5, false⟩] := by
  decide

/-- **Deletion takes effect, over every history.** In any reachable world in which no attribute
carries the identifier `i` any more, a successful `update_msk` leaves no right involving `i` in the
master key (so, by `refresh_adds_no_right`, in no key refreshed afterwards). -/
theorem deleted_attribute_leaves_master_key (w : World) (hw : Reachable w) (i : Nat)
    (hdead : ¬ w.msk.structure_.live i)
    (hok : (updateMsk w.msk w.msk.structure_.omega w.rng).1 = .ok ()) (ids : List Nat) (hi : i ∈ ids) :
    (w.step .update).msk.secrets.lookup (Right.fromPoint ids) = none := by
  apply update_ok_keys w _ hok
  cases hl : w.msk.structure_.omega.lookup (Right.fromPoint ids) with
  | none => rfl
  | some fl =>
    have hS := reachable_struct_wf w hw
    obtain ⟨ids0, e0, l0, _⟩ := omega_spec hS.1 hS.2 (lookup_mem hl)
    exact absurd (l0 i (((Right.fromPoint_eq_iff _ _).1 e0).mem_iff.1 hi)).1 hdead

end CC.Props.C05
