import CC.Lemmas.Edits
import CC.Lemmas.Leb
import CC.Lemmas.World
import CC.Lemmas.Contig
import CC.Lemmas.Rename
/-! # C03 — access decisions stay correct across access-structure edits

Rights are named by attribute *identifiers*; the theorems show that identifiers are permanent
identities: along any history of edits an identifier is never issued twice (so a new attribute
never inherits the rights, hence the access, of a live or deleted one), and renaming or disabling
keeps it. -/

namespace CC.Props.C03
open CC

/-- along any history of edits (failing ones included) all identifiers in use stay below the
counter and the counter never decreases -/
theorem ids_below_counter (es : List Edit) :
    (Struct.empty.run es).IdsBelow ∧ ∀ es', (Struct.empty.run es).nextId ≤ ((Struct.empty.run es).run es').nextId := by
  obtain ⟨h1, _⟩ := Struct.run_idsBelow Struct.empty es empty_wf.2
  exact ⟨h1, fun es' => (Struct.run_idsBelow _ es' h1).2⟩

/-- an identifier is never issued twice: the attribute created after any history `es ++ es'`
receives an identifier strictly greater than every identifier that was in use after `es`
(whether or not its holder has been deleted in between) -/
theorem id_never_reissued (es es' : List Edit) (dim name : String) (hyb : Bool) (after : Option String)
    (s' : Struct) (h : ((Struct.empty.run es).run es').addAttribute dim name hyb after = .ok s') :
    s'.nextId = ((Struct.empty.run es).run es').nextId + 1 ∧
    ∀ p ∈ (Struct.empty.run es).dims, ∀ q ∈ p.2.attrs, q.2.id < ((Struct.empty.run es).run es').nextId := by
  obtain ⟨hb, hmono⟩ := ids_below_counter es
  constructor
  · obtain ⟨_, _, _, _, rfl⟩ := Struct.addAttribute_spec h
    rfl
  · intro p hp q hq
    exact Nat.lt_of_lt_of_le (hb p hp q hq) (hmono es')

/-- disabling an attribute keeps its identifier and hint (its rights are unchanged) -/
theorem disable_keeps_id (d d' : Dim) (name : String) (h : d.disableAttribute name = .ok d')
    (hnd : (d.attrs.map (·.1)).Nodup) :
    ∃ a, d.attrs.lookup name = some a ∧ d'.attrs = areplace d.attrs name { a with ro := true } := by
  obtain ⟨a, hl, rfl⟩ := Dim.disableAttribute_ok.1 h
  exact ⟨a, hl, rfl⟩

/-- renaming keeps position (hierarchy), identifier, hint and status: only the name changes -/
theorem rename_keeps_attr (d d' : Dim) (old new : String) (h : d.renameAttribute old new = .ok d') :
    d'.attrs.map (·.2) = d.attrs.map (·.2) ∨
      (d.ordered = false ∧ ∃ a, d.attrs.lookup old = some a ∧ d'.attrs = aerase d.attrs old ++ [(new, a)]) := by
  obtain ⟨a, hlo, -, rfl⟩ := Dim.renameAttribute_ok.1 h
  cases ho : d.ordered
  · exact .inr ⟨rfl, a, hlo, rfl⟩
  · refine .inl ?_
    simp only [if_true, List.map_map]
    exact List.map_congr_left fun p _ => by simp only [Function.comp]; split <;> rfl

/-- two attributes with different identifiers never share a single-attribute right, and more
generally points with different id sets give different rights -/
theorem distinct_ids_distinct_rights (p q : List Nat) (h : ¬ p.Perm q) :
    Right.fromPoint p ≠ Right.fromPoint q :=
  fun he => h ((Right.fromPoint_eq_iff p q).1 he)

/-- in every world reachable through the API the access structure is well formed: names are unique
and **no identifier is shared by two attributes** — so different attribute sets have different rights -/
theorem reachable_structure_wf (w : World) (hw : Reachable w) :
    w.msk.structure_.WF ∧ w.msk.structure_.IdsBelow := reachable_struct_wf w hw

theorem step_edit (w : World) (e : Edit) :
    (w.step (.edit e)).msk.secrets = w.msk.secrets ∧ (w.step (.edit e)).rng = w.rng := by
  simp only [World.step]
  cases w.msk.structure_.apply e <;> exact ⟨rfl, rfl⟩

/-- **Edits never change the secrets of unrelated rights, over every history.** A structure edit
changes no secret at all, and the `update_msk` that makes edits effective either removes a right or
leaves its chain of secrets as it was (only the activation flag of the newest one is recomputed): a
user key opens encapsulations for a surviving right exactly as before. -/
theorem edits_keep_secrets (w : World) (hw : Reachable w) (k : Right) (c : List (Bool × Sk))
    (hl : w.msk.secrets.lookup k = some c) :
    (∀ e, (w.step (.edit e)).msk.secrets.lookup k = some c) ∧
    ((w.step .update).msk.secrets.lookup k = none ∨
      ∃ c', (w.step .update).msk.secrets.lookup k = some c' ∧ c'.map (·.2) = c.map (·.2)) :=
  ⟨fun e => (step_edit w e).1 ▸ hl, update_keeps_secrets w hw k c hl⟩

/-- no operation whatsoever alters an existing secret of a right: it can only remove the right
(update after a deletion), put newer secrets in front of the chain (rekey), or keep the newest only
(prune) -/
theorem operations_never_alter_secrets (w : World) (hw : Reachable w) (op : Op) (k : Right) (c : List (Bool × Sk))
    (hl : w.msk.secrets.lookup k = some c) :
    (w.step op).msk.secrets.lookup k = none ∨
    ∃ c', (w.step op).msk.secrets.lookup k = some c' ∧
      ((∃ news : List Sk, c'.map (·.2) = news ++ c.map (·.2) ∧ ∀ x ∈ news, w.rng ≤ x.tok) ∨
       c'.map (·.2) = (c.map (·.2)).take 1) := step_secrets w hw op k c hl

/-- **A new attribute inherits nothing, over every history.** After `add_attribute` (which hands out
the identifier `nextId`) and the `update_msk` that makes it effective, every secret of every right
that involves the new attribute was drawn by that update: no right mentioned that identifier before,
whatever was deleted earlier, so no key issued before holds a secret for the new attribute. -/
theorem new_attribute_inherits_nothing (w : World) (hw : Reachable w) (dn nm : String) (hyb : Bool)
    (after : Option String) (ids : List Nat) (hi : w.msk.structure_.nextId ∈ ids) (c : List (Bool × Sk))
    (hl : ((w.step (.edit (.addAttr dn nm hyb after))).step .update).msk.secrets.lookup (Right.fromPoint ids) = some c) :
    ∀ v ∈ c, w.rng ≤ v.2.tok := by
  have hc := reachable_coh w hw
  -- before the edit no right of the master key mentions the identifier about to be handed out
  have hnone : w.msk.secrets.lookup (Right.fromPoint ids) = none :=
    Option.eq_none_iff_forall_ne_some.2 fun c0 hlk =>
      let ⟨_, h1, h2⟩ := hc.below _ c0 hlk
      Nat.lt_irrefl _ (h2 _ (((Right.fromPoint_eq_iff _ _).1 h1).mem_iff.1 hi))
  have hcs := step_chain (w.step (.edit (.addAttr dn nm hyb after))) .update (Right.fromPoint ids)
  rw [(step_edit w _).1, hnone, hl, (step_edit w _).2] at hcs
  cases hcs with
  | born _ t hy ro _ _ h1 _ =>
    intro v hv
    cases List.mem_singleton.1 hv
    exact h1

/-- **A renamed attribute keeps its access, under its new name.** After `rename_attribute` the
new name denotes the very same attribute (identifier, hint, status) the old name denoted: policies
written with the new name produce the rights, hence reach the secrets, the old name did
(`edits_keep_secrets`: the rename changed no secret). -/
theorem rename_keeps_access_by_name (s s' : Struct) (hS : s.WF) (hb : s.IdsBelow) (dn o n : String)
    (h : s.renameAttribute dn o n = .ok s') (a : Attr) (ha : s.getAttribute ⟨dn, o⟩ = .ok a) :
    s'.getAttribute ⟨dn, n⟩ = .ok a := by
  simpa [renQA, renName] using getAttribute_rename hS h ha

/-- **A renamed attribute keeps its access, at the level of names.** A user key generated *before*
the rename for a clause `cl`, an encapsulation made *after* it for the clause `ε` written with the
new name: one of the key's rights is the targeted right exactly when the name-level cover relation
holds between the two clauses read with the new names in the new structure. -/
theorem renamed_attribute_keeps_access (s s' : Struct) (hS : s.WF) (hb : s.IdsBelow) (dn o n : String)
    (h : s.renameAttribute dn o n = .ok s') (cl ε : List QA)
    (hcl : ClauseNodup cl) (hε : ClauseNodup ε)
    (hkc : Spec.clauseKnown s cl = true) (hkε : Spec.clauseKnown s ε = true) :
    ∃ pts eas, s.complementaryPoints cl = .ok pts ∧
      mapMExcept s'.getAttribute (ε.map (renQA dn o n)) = .ok eas ∧
      ((∃ p ∈ pts, Right.fromPoint p = Right.fromPoint (eas.map (·.id))) ↔
        Spec.coversClause s' (cl.map (renQA dn o n)) (ε.map (renQA dn o n)) = true) := by
  obtain ⟨pts, eas, hpts, heas, hiff⟩ := clause_right_iff hS hcl hε hkc hkε
  refine ⟨pts, eas, hpts, mapM_getAttribute_rename hS hb h heas, ?_⟩
  rw [coversClause_rename hS h hkc hkε]
  exact hiff

theorem clauseKnown_rename {s s' : Struct} (hS : s.WF) (hb : s.IdsBelow) {dn o n : String}
    (h : s.renameAttribute dn o n = .ok s') {cl : List QA} (hk : Spec.clauseKnown s cl = true) :
    Spec.clauseKnown s' (cl.map (renQA dn o n)) = true := by
  refine clauseKnown_iff.2 fun q' hq' => ?_
  obtain ⟨q, hq, rfl⟩ := List.mem_map.1 hq'
  obtain ⟨a, hg⟩ := known_getAttribute hk hq
  obtain ⟨d', hd', ha'⟩ := getAttribute_ok_iff.1 (getAttribute_rename hS h hg)
  exact ⟨d', a, hd', lookup_mem ha'⟩

theorem clauseNodup_rename {dn o n : String} {cl : List QA} (h : ClauseNodup cl) :
    ClauseNodup (cl.map (renQA dn o n)) := by
  rw [ClauseNodup, List.map_map, show (fun q : QA => q.dim) ∘ renQA dn o n = (·.dim) from funext (renQA_dim dn o n)]
  exact h

/-- a rename request: dimension, old name, new name -/
structure Ren where
  dim : String
  old : String
  new : String

/-- several renames in a row, each of them accepted (the same attribute may be renamed again, a name
given up may be taken by another attribute) -/
def applyRens : Struct → List Ren → Except Err Struct
  | s, [] => .ok s
  | s, r :: rs => match s.renameAttribute r.dim r.old r.new with
    | .ok s' => applyRens s' rs
    | .error e => .error e

/-- a clause read with the names of the end of the sequence -/
def renClause : List Ren → List QA → List QA
  | [], c => c
  | r :: rs, c => renClause rs (c.map (renQA r.dim r.old r.new))

/-- what is carried along the sequence: the identifiers of `ε` and the verdict, as first computed -/
theorem renamed_many_carry {rs : List Ren} {s s' : Struct} (hS : s.WF) (hb : s.IdsBelow)
    (h : applyRens s rs = .ok s') {cl ε : List QA} {eas : List Attr} (hkc : Spec.clauseKnown s cl = true)
    (hkε : Spec.clauseKnown s ε = true) (he : mapMExcept s.getAttribute ε = .ok eas) :
    mapMExcept s'.getAttribute (renClause rs ε) = .ok eas ∧
      Spec.coversClause s' (renClause rs cl) (renClause rs ε) = Spec.coversClause s cl ε := by
  induction rs generalizing s cl ε with
  | nil => cases h; exact ⟨he, rfl⟩
  | cons r rest ih =>
    rw [applyRens] at h
    cases h1 : s.renameAttribute r.dim r.old r.new with
    | error e => rw [h1] at h; cases h
    | ok s1 =>
      rw [h1] at h
      have ha : s.apply (.rename r.dim r.old r.new) = .ok s1 := h1
      obtain ⟨h2, h3⟩ := ih (Struct.apply_wf hS hb ha) (Struct.apply_idsBelow ha hb) h
        (clauseKnown_rename hS hb h1 hkc) (clauseKnown_rename hS hb h1 hkε) (mapM_getAttribute_rename hS hb h1 he)
      exact ⟨h2, h3.trans (coversClause_rename hS h1 hkc hkε)⟩

/-- **Renamed attributes keep their access, through any number of renames**: as
`renamed_attribute_keeps_access`, with the clauses read with the names of the end of the sequence. -/
theorem renamed_many_keep_access : ∀ (rs : List Ren) (s s' : Struct), s.WF → s.IdsBelow →
    applyRens s rs = .ok s' → ∀ (cl ε : List QA), ClauseNodup cl → ClauseNodup ε →
    Spec.clauseKnown s cl = true → Spec.clauseKnown s ε = true →
    ∃ pts eas, s.complementaryPoints cl = .ok pts ∧
      mapMExcept s'.getAttribute (renClause rs ε) = .ok eas ∧
      ((∃ p ∈ pts, Right.fromPoint p = Right.fromPoint (eas.map (·.id))) ↔
        Spec.coversClause s' (renClause rs cl) (renClause rs ε) = true) := by
  intro rs s s' hS hb h cl ε hcl hε hkc hkε
  obtain ⟨pts, eas, hpts, heas, hiff⟩ := clause_right_iff hS hcl hε hkc hkε
  obtain ⟨h2, h3⟩ := renamed_many_carry hS hb h hkc hkε heas
  exact ⟨pts, eas, hpts, h2, by rw [h3]; exact hiff⟩

/-- non-vacuity: two attributes exchange their names through a third one (three accepted renames) -/
example : ∃ s', applyRens (Struct.empty.run [.addDim "D" false, .addAttr "D" "A" false none, .addAttr "D" "B" false none])
    [⟨"D", "A", "T"⟩, ⟨"D", "B", "A"⟩, ⟨"D", "T", "B"⟩] = .ok s' := ⟨_, rfl⟩

/-- an accepted edit leaves every other dimension exactly as it was -/
theorem Struct.apply_lookup_other {s s' : Struct} {e : Edit} (h : s.apply e = .ok s') {dn : String}
    (hd : dn ≠ e.dim) : s'.dims.lookup dn = s.dims.lookup dn :=
  Struct.apply_lookup_ne h hd

theorem Struct.run_lookup_other (es : List Edit) (s : Struct) {dn : String} (hd : ∀ e ∈ es, dn ≠ e.dim) :
    (s.run es).dims.lookup dn = s.dims.lookup dn :=
  Struct.run_induction (P := fun s' => s'.dims.lookup dn = s.dims.lookup dn)
    (fun e he _ _ h ha => (Struct.apply_lookup_ne ha (hd e he)).trans h) rfl

/-- **Edits never change who can open encapsulations for unrelated attributes.** Any sequence of
edits, accepted or refused, none of which is about a dimension named by the encryption clause `ε`: a
key generated *before* them for any clause `cl` (whose dimensions may have been edited or deleted
since) holds the right targeted *after* them by `ε` exactly when the name-level cover relation held
before the edits, and it is the same relation in the edited structure. -/
theorem unrelated_edits_keep_access (s : Struct) (hS : s.WF) (es : List Edit) (cl ε : List QA)
    (hcl : ClauseNodup cl) (hε : ClauseNodup ε)
    (hkc : Spec.clauseKnown s cl = true) (hkε : Spec.clauseKnown s ε = true)
    (hun : ∀ e ∈ es, ∀ q ∈ ε, q.dim ≠ e.dim) :
    ∃ pts eas, s.complementaryPoints cl = .ok pts ∧
      mapMExcept (s.run es).getAttribute ε = .ok eas ∧
      ((∃ p ∈ pts, Right.fromPoint p = Right.fromPoint (eas.map (·.id))) ↔
        Spec.coversClause (s.run es) cl ε = true) ∧
      Spec.coversClause (s.run es) cl ε = Spec.coversClause s cl ε := by
  obtain ⟨pts, eas, hpts, heas, hiff⟩ := clause_right_iff hS hcl hε hkc hkε
  have hlk : ∀ q ∈ ε, (s.run es).dims.lookup q.dim = s.dims.lookup q.dim :=
    fun q hq => Struct.run_lookup_other es s (fun e he => hun e he q hq)
  have hcov : Spec.coversClause (s.run es) cl ε = Spec.coversClause s cl ε :=
    all_congr_mem fun qx hqx => by rw [hlk qx hqx]
  refine ⟨pts, eas, hpts, ?_, ?_, hcov⟩
  · rw [mapMExcept_congr fun q hq => show (s.run es).getAttribute q = s.getAttribute q by
      unfold Struct.getAttribute; rw [hlk q hq]]
    exact heas
  · rw [hcov]; exact hiff

/-- non-vacuity: a dimension is added, filled, an attribute of it renamed and disabled, another
dimension deleted — none of it is about dimension "D" -/
example : ∀ e ∈ [Edit.addDim "N" true, .addAttr "N" "X" true none, .rename "N" "X" "Y", .disable "N" "Y", .delDim "S"],
    ∀ q ∈ [(⟨"D", "A"⟩ : QA)], q.dim ≠ Edit.dim e := by decide

/-- non-vacuity: delete then add — the new attribute gets a new identifier (2), not the deleted one's (0) -/
example : (Struct.empty.run [.addDim "D" false, .addAttr "D" "A" false none, .addAttr "D" "B" false none,
    .delAttr "D" "A", .addAttr "D" "C" false none]).dims = [("D", ⟨false, [("B", ⟨1, false, false⟩), ("C", ⟨2, false, false⟩)]⟩)] := by
  rfl

end CC.Props.C03
