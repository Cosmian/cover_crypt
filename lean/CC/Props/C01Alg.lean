import Mathlib.Algebra.Field.Basic
import Mathlib.Algebra.Module.Basic
import Mathlib.Algebra.NoZeroSMulDivisors.Basic
import Mathlib.Tactic.Ring
import CC.Props.C17Alg
/-! # C01 (algebra) — encapsulation and decapsulation derive the same ElGamal session key

The algebra behind the symbolic model's "secret `x` opens the component made for public key `H`",
over any field `F` of scalars and any `F`-vector space `G` of points: tracers `tᵢ` (`Pᵢ = tᵢ•g`),
binding scalar `s` (`h = s•g`), right secret `x` (`H = x•h`), markers `αᵢ` with `Σ tᵢ·αᵢ = s` (C17),
encapsulation randomness `r` (traps `cᵢ = r•Pᵢ`, `K₁ = r•H`). The user's `x • Σ αᵢ•cᵢ` and the master
key's `x • ((s / t₀) • c₀)` both equal `K₁`; markers outside the tracing relation give another key. -/

namespace CC.Props.C01Alg
open CC.Props.C17Alg

variable {F G : Type} [Field F] [AddCommGroup G] [Module F G]

/-- `A = Σ αᵢ • cᵢ` over the zipped lists (`primitives::decaps`) -/
def comb : List F → List G → G
  | a :: as, c :: cs => a • c + comb as cs
  | _, _ => 0

/-- `MasterPublicKey::set_traps`: `cᵢ = r • Pᵢ` with `Pᵢ = tᵢ • g` -/
def traps (r : F) (ts : List F) (g : G) : List G := ts.map (fun t => r • (t • g))

theorem comb_traps (r : F) (g : G) : ∀ (ts as : List F), comb as (traps r ts g) = (r * dot ts as) • g
  | [], [] | [], _ :: _ | _ :: _, [] => by simp [comb, traps, dot]
  | t :: ts, a :: as => by
    have ih := comb_traps r g ts as
    unfold traps at ih ⊢
    rw [List.map_cons, comb, ih, dot, mul_add, add_smul, smul_smul, smul_smul]
    congr 2; ring

theorem user_key (g : G) (ts as : List F) (x r : F) :
    x • comb as (traps r ts g) = (x * r * dot ts as) • g := by
  rw [comb_traps, smul_smul, mul_assoc]

theorem session_key (g : G) (s x r : F) : r • (x • (s • g)) = (x * r * s) • g := by
  rw [smul_smul, smul_smul, mul_comm r x]

/-- **the user derives the session key of the encapsulation**: `x • A = r • H` -/
theorem session_key_agree (g : G) (ts as : List F) (s x r : F) (hid : dot ts as = s) :
    x • comb as (traps r ts g) = r • (x • (s • g)) := by
  rw [user_key, session_key, hid]

/-- the master key derives it too (`full_decaps`: `A = (s / t₀) • c₀`) -/
theorem master_session_key_agree (g : G) (t0 s x r : F) (h0 : t0 ≠ 0) :
    x • ((s / t0) • (r • (t0 • g))) = r • (x • (s • g)) := by
  rw [session_key g s x r, smul_smul, smul_smul, smul_smul,
    show x * (s / t0) * r * t0 = x * r * (s / t0 * t0) by ring, div_mul_cancel₀ s h0]

/-- **markers that do not satisfy the tracing relation do not open**: a forged or altered
identifier derives a key other than the session key -/
theorem wrong_markers_differ (g : G) (ts as : List F) (s x r : F) (hid : dot ts as ≠ s)
    (hg : g ≠ 0) (hx : x ≠ 0) (hr : r ≠ 0) :
    x • comb as (traps r ts g) ≠ r • (x • (s • g)) := by
  rw [user_key, session_key]
  exact fun h => hid (mul_left_cancel₀ (mul_ne_zero hx hr) (smul_left_injective F hg h))

/-- non-vacuity: level 1 (two tracers), the last marker solved as `generate_user_id` does -/
example (g : G) (t0 t1 a0 s x r : F) (h1 : t1 ≠ 0) :
    x • comb [a0, (s - dot [t0] [a0]) / t1] (traps r [t0, t1] g) = r • (x • (s • g)) :=
  session_key_agree g [t0, t1] _ s x r (by simpa using userId_valid s [t0] [a0] t1 rfl h1)

end CC.Props.C01Alg
