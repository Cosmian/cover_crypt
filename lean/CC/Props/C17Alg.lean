import Mathlib.Algebra.Field.Basic
import Mathlib.Algebra.BigOperators.Group.List.Basic
/-! # C17 (algebra) — the last marker solved from the others satisfies the tracing relation

Over any field `F`: `generate_user_id` draws all markers but the last at random and sets the last
one to `(s - Σ tᵢ·aᵢ) / t_last`; then `Σ tᵢ·aᵢ = s` over all tracers, for every tracing level. -/

namespace CC.Props.C17Alg

variable {F : Type} [Field F]

/-- `Σ tᵢ·aᵢ` over the zipped lists (as `_validate_user_id` computes it) -/
def dot : List F → List F → F
  | t :: ts, a :: as => t * a + dot ts as
  | _, _ => 0

theorem dot_append_single : ∀ (ts as : List F) (t a : F), ts.length = as.length →
    dot (ts ++ [t]) (as ++ [a]) = dot ts as + t * a
  | [], [], _, _, _ => by simp [dot]
  | x :: xs, y :: ys, t, a, h => by
    rw [List.cons_append, List.cons_append, dot, dot, dot_append_single xs ys t a (Nat.succ.inj h), add_assoc]

/-- the identifier produced by `generate_user_id` satisfies the tracing relation -/
theorem userId_valid (s : F) (ts as : List F) (tlast : F) (h : ts.length = as.length) (hne : tlast ≠ 0) :
    dot (ts ++ [tlast]) (as ++ [(s - dot ts as) / tlast]) = s := by
  rw [dot_append_single ts as _ _ h, mul_div_cancel₀ _ hne, add_sub_cancel]

/-- non-vacuity: level 1 -/
example (s t0 a0 t1 : F) (h : t1 ≠ 0) : dot [t0, t1] [a0, (s - dot [t0] [a0]) / t1] = s := by
  have := userId_valid s [t0] [a0] t1 rfl h
  simpa using this

end CC.Props.C17Alg
