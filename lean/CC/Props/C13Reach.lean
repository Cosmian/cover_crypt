import CC.Props.C13
import CC.Model.Embed
import CC.Model.Shape
import CC.Lemmas.Issued
import CC.Lemmas.World
/-! # C13 over every history — what the API can reach round-trips

`CC.Props.C13` is about well-formed wire objects. Here: in every reachable world with at least one
tracer, the master key laid out on the wire by `Msk.toWire` (with any leaf representation of the
configuration's sizes) is well formed, hence round-trips; so do the public key, the user keys,
encapsulations and headers the world hands out; and a history continued from the reloaded master key
is the history continued from the original. The hypotheses left are physical (`…Small`: counts and
name lengths below `2^64`) and stated. -/

namespace CC.Props.C13Reach
open CC CC.Wire CC.Props.C13

theorem validUtf8_strBytes (s : String) : validUtf8 (strBytes s) = true := by
  unfold validUtf8 strBytes
  rw [ByteArray.validateUTF8_eq_true_iff]
  exact s.isValidUTF8

def StructSmall (s : Struct) : Prop :=
  s.nextId < 2 ^ 64 ∧ s.dims.length < 2 ^ 64 ∧
    ∀ p ∈ s.dims, (strBytes p.1).length < 2 ^ 64 ∧ p.2.attrs.length < 2 ^ 64 ∧
      ∀ q ∈ p.2.attrs, (strBytes q.1).length < 2 ^ 64

theorem wfStruct_toWire (s : Struct) (hs : StructSmall s) (hb : s.IdsBelow) : WfStruct s.toWire := by
  obtain ⟨h1, h2, h3⟩ := hs
  refine ⟨Or.inl ⟨rfl, s.nextId, rfl, h1⟩, (List.length_map ..).symm ▸ h2, List.forall_mem_map.2 fun p hp => ?_⟩
  obtain ⟨hn, hl, ha⟩ := h3 p hp
  refine ⟨validUtf8_strBytes _, hn, ?_, (List.length_map ..).symm ▸ hl, List.forall_mem_map.2 fun q hq => ?_⟩
  · simp only [Dim.toWire]; split <;> decide
  · refine ⟨validUtf8_strBytes _, ha q hq, Nat.lt_trans (hb p hp q hq) h1, ?_, ?_⟩
    · simp only [Attr.toWire]; split <;> decide
    · simp only [Attr.toWire]; split <;> decide

variable {c : Cfg}

theorem leafSk (L : Leaves c) (t : Nat) : WfLeafSk c (L.scalar t) := ⟨L.scalar_len t, L.scalar_ok t⟩
theorem leafPk (L : Leaves c) (t : Nat) : WfLeafPk c (L.point t) := ⟨L.point_len t, L.point_ok t⟩

theorem wfKey_sk (L : Leaves c) (s : Sk) : WfKey c.sk c.dk (s.toWireSk L) ∧ c.validSk (s.toWireSk L).a = true := by
  refine ⟨⟨L.scalar_len _, ?_⟩, L.scalar_ok _⟩
  simp only [Sk.toWireSk]
  split
  · exact L.dk_len _
  · rfl

theorem wfKey_pk (L : Leaves c) (s : Sk) : WfKey c.pk c.ek (s.toWirePk L) ∧ c.validPk (s.toWirePk L).a = true := by
  refine ⟨⟨L.point_len _, ?_⟩, L.point_ok _⟩
  simp only [Sk.toWirePk]
  split
  · exact L.ek_len _
  · rfl

theorem tracerToks_length (a k : Nat) : (tracerToks a k).length = k := by
  rw [tracerToks, List.length_map, List.length_range]

theorem tracerToks_ne_nil {α : Type} {a k : Nat} (f : Nat → α) (hk : k ≠ 0) : (tracerToks a k).map f ≠ [] :=
  fun h => hk (by rw [← tracerToks_length a k, List.map_eq_nil_iff.1 h]; rfl)

/-- a reachable master key has a signing key and identifiers of its tracing level -/
def Shape (m : Msk) : Prop := m.signKey.isSome = true ∧ ∀ id ∈ m.users, id.length = m.ntracers

theorem step_shape (w : World) (op : Op) (h : Shape w.msk) : Shape (w.step op).msk :=
  have hf := step_frame w op
  ⟨hf.signKey ▸ h.1, fun id hid => hf.ntracers ▸ (hf.fresh id hid).elim (h.2 id) (·.1)⟩

theorem reachable_shape (w : World) (h : Reachable w) : Shape w.msk :=
  h.induction (fun n k => step_shape ⟨(setup n k).1, (setup n k).2⟩ .update ⟨rfl, nofun⟩) fun w op _ => step_shape w op

def MskSmall (m : Msk) : Prop :=
  m.ntracers < 2 ^ 64 ∧ m.users.length < 2 ^ 64 ∧ m.secrets.length < 2 ^ 64 ∧
    (∀ p ∈ m.secrets, p.1.length < 2 ^ 64 ∧ p.2.length < 2 ^ 64) ∧ StructSmall m.structure_

/-- **every master key the API can reach is a well-formed wire object** -/
theorem reachable_msk_wf (L : Leaves c) (w : World) (h : Reachable w) (hk : w.msk.ntracers ≠ 0)
    (hs : MskSmall w.msk) : WfMsk c (w.msk.toWire L) := by
  obtain ⟨hsig, hul⟩ := reachable_shape w h
  obtain ⟨s1, s2, s3, s4, s5⟩ := hs
  obtain ⟨k, hsk⟩ := Option.isSome_iff_exists.1 hsig
  simp only [WfMsk, Msk.toWire, List.length_map, List.forall_mem_map, tracerToks_length, hsk]
  exact ⟨leafSk L _, tracerToks_ne_nil _ hk, s1, fun t _ => ⟨leafSk L t, leafPk L t⟩, s2,
    fun id hid => ⟨fun hnil => hk (by rw [← hul id hid, List.map_eq_nil_iff.1 hnil]; rfl), (hul id hid).symm ▸ s1,
      fun m _ => leafSk L m⟩,
    s3, fun q hq => ⟨(s4 q hq).1, (s4 q hq).2, fun x _ => wfKey_sk L x.2⟩, ⟨_, rfl, L.sigKey_len k⟩,
    wfStruct_toWire _ s5 (reachable_struct_wf w h).2⟩

/-- C13 for the master key, over every history -/
theorem reachable_msk_roundtrip (L : Leaves c) (w : World) (h : Reachable w) (hk : w.msk.ntracers ≠ 0)
    (hs : MskSmall w.msk) (rest : Bytes) :
    msk c (encMsk (w.msk.toWire L) ++ rest) = some (w.msk.toWire L, rest) :=
  msk_roundtrip c _ (reachable_msk_wf L w h hk hs) rest

/-- the public key derived from any reachable master key is a well-formed wire object -/
theorem reachable_mpk_wf (L : Leaves c) (w : World) (h : Reachable w) (hk : w.msk.ntracers ≠ 0)
    (hs : MskSmall w.msk) : WfMpk c (w.msk.mpk.toWire L) := by
  obtain ⟨s1, s2, s3, s4, s5⟩ := hs
  simp only [WfMpk, Mpk.toWire, List.length_map, List.forall_mem_map, tracerToks_length]
  exact ⟨tracerToks_ne_nil _ hk, s1, fun t _ => leafPk L t,
    Nat.lt_of_le_of_lt (List.length_filterMap_le mpkEntry w.msk.secrets) s3,
    fun q hq => let ⟨_, hch, _⟩ := mem_mpk_keys.1 hq; ⟨(s4 _ hch).1, wfKey_pk L q.2⟩,
    wfStruct_toWire _ s5 (reachable_struct_wf w h).2⟩

theorem reachable_mpk_roundtrip (L : Leaves c) (w : World) (h : Reachable w) (hk : w.msk.ntracers ≠ 0)
    (hs : MskSmall w.msk) (rest : Bytes) :
    Wire.mpk c (encMpk (w.msk.mpk.toWire L) ++ rest) = some (w.msk.mpk.toWire L, rest) :=
  mpk_roundtrip c _ (reachable_mpk_wf L w h hk hs) rest

def UskSmall (u : Usk) : Prop :=
  u.id.length < 2 ^ 64 ∧ u.nps < 2 ^ 64 ∧ u.secrets.length < 2 ^ 64 ∧
    ∀ p ∈ u.secrets, p.1.length < 2 ^ 64 ∧ p.2.length < 2 ^ 64

theorem usk_wf (L : Leaves c) (u : Usk) (hid : u.id ≠ []) (hne : ∀ p ∈ u.secrets, p.2 ≠ []) (hs : UskSmall u) :
    WfUsk c (u.toWire L) := by
  obtain ⟨s1, s2, s3, s4⟩ := hs
  simp only [WfUsk, Usk.toWire, List.length_map, List.forall_mem_map, tracerToks_length]
  exact ⟨mt List.map_eq_nil_iff.1 hid, s1, fun t _ => leafSk L t, s2, fun t _ => leafPk L t, s3,
    fun q hq => ⟨(s4 q hq).1, mt List.map_eq_nil_iff.1 (hne q hq), (s4 q hq).2, fun x _ => wfKey_sk L x⟩,
    fun _ hsig => let ⟨x, _, e⟩ := Option.map_eq_some_iff.1 hsig; e ▸ L.mac_len x⟩

theorem sign_mac_ne_none (L : Leaves c) {msk : Msk} (h : msk.signKey.isSome = true) (id : UserId)
    (secrets : RevVec) : (sign msk id secrets).map L.mac ≠ none := by
  obtain ⟨k, hk⟩ := Option.isSome_iff_exists.1 h
  rw [sign, hk]
  nofun

/-- C13 for user keys over every history: the key `generate_user_secret_key` hands out -/
theorem keygen_usk_roundtrip (L : Leaves c) (w : World) (h : Reachable w) (rights : List Right) (usk : Usk)
    (hg : (uskKeygen w.msk rights w.rng).1 = .ok usk) (hs : UskSmall usk) :
    deserialize (Wire.usk c) (encUsk (usk.toWire L)) = some (usk.toWire L) := by
  obtain ⟨chains, hl, hnt, rfl, -⟩ := uskKeygen_ok_spec hg
  refine usk_roundtrip c _ (usk_wf L _ ?_ (fun p hp hnil => ?_) hs)
    (sign_mac_ne_none L (reachable_shape w h).1 _ _)
  · exact fun hnil => hnt ((w.msk.length_freshId w.rng).symm.trans (congrArg List.length hnil))
  · obtain ⟨-, _, sk, -, hc⟩ := (latestRightSks_mem w.msk rights chains hl p.1 p.2).1 hp
    cases hc.symm.trans hnil

theorem refreshId_ok_ne_nil {msk : Msk} (hs : Shape msk) (hk : msk.ntracers ≠ 0) (id : UserId) (n : Rng)
    (nid : UserId) (h : (refreshId msk id n).1 = .ok nid) : nid ≠ [] := by
  obtain ⟨hmem, -⟩ := (refreshId_ok_iff msk id n).1 ⟨nid, h⟩
  have hlen := hs.2 id hmem
  rw [refreshId_same_level n hmem hlen] at h
  cases h
  exact fun hnil => hk (by rw [← hlen, hnil]; rfl)

/-- C13 for refreshed keys over every history: whatever key is offered to `refresh_usk`, with either
flag, the key a successful refresh leaves behind round-trips -/
theorem refreshed_usk_roundtrip (L : Leaves c) (w : World) (h : Reachable w) (hk : w.msk.ntracers ≠ 0)
    (usk : Usk) (keep : Bool) (hok : (refresh w.msk usk keep w.rng).1 = .ok ())
    (hs : UskSmall (refresh w.msk usk keep w.rng).2.2.1) :
    deserialize (Wire.usk c) (encUsk ((refresh w.msk usk keep w.rng).2.2.1.toWire L)) =
      some ((refresh w.msk usk keep w.rng).2.2.1.toWire L) := by
  have hshape := reachable_shape w h
  -- a refreshed chain starts with the newest secret of a master chain, and none of those is empty
  have hchains : ∀ p ∈ (refresh w.msk usk keep w.rng).2.2.1.secrets, p.2 ≠ [] := fun p hp hnil => by
    obtain ⟨mchain, hlook, -, hhead, -⟩ :=
      refresh_secrets_spec w.msk usk keep w.rng hok p.1 p.2 hp
    rw [hnil, List.head?_nil, eq_comm, List.head?_eq_none_iff, List.map_eq_nil_iff] at hhead
    exact reachable_nonEmpty w h p.1 mchain (lookup_mem hlook) hhead
  obtain ⟨-, nid, nr, hid, -, heq⟩ := refresh_ok_spec hok
  rw [heq] at hs hchains ⊢
  exact usk_roundtrip c _ (usk_wf L _ (refreshId_ok_ne_nil hshape hk _ _ _ hid) hchains hs)
    (sign_mac_ne_none L ((refreshId_side w.msk usk.id w.rng).signKey ▸ hshape.1) _ _)

def XEncSmall (x : XEnc) : Prop := x.ntraps < 2 ^ 64 ∧ x.targets.length < 2 ^ 64

theorem xenc_wf (L : Leaves c) (x : XEnc) (hk : x.ntraps ≠ 0) (hs : XEncSmall x) : WfEnc c (x.toWire L) := by
  simp only [WfEnc, XEnc.toWire, List.length_map, List.forall_mem_map, tracerToks_length]
  refine ⟨L.tag_len _, tracerToks_ne_nil _ hk, hs.1, fun t _ => ⟨L.trap_len _ _, L.trap_ok _ _⟩, hs.2,
    fun t _ => ⟨L.mask_len _ _, ?_⟩⟩
  split
  · exact L.ct_len _ _
  · rfl

/-- C13 for encapsulations over every history: whatever `encaps` returns -/
theorem encaps_xenc_roundtrip (L : Leaves c) (w : World) (hk : w.msk.ntracers ≠ 0)
    (targets : List Right) (n : Rng) (s : Nat) (x : XEnc)
    (he : (encaps w.msk.mpk targets n).1 = .ok (s, x)) (hs : XEncSmall x) (rest : Bytes) :
    xenc c (encXenc (x.toWire L) ++ rest) = some (x.toWire L, rest) :=
  xenc_roundtrip c _ (xenc_wf L x ((encaps_ok_spec he).2.2.2.1 ▸ hk) hs) rest

/-- C13 for encrypted headers over every history: whatever `EncryptedHeader::generate` returns,
metadata absent, empty or not (an encrypted empty metadata is nonce ‖ MAC, 28 bytes: present on the
wire; only the absent one is the empty string) -/
theorem generated_header_roundtrip (L : Leaves c) (w : World) (hk : w.msk.ntracers ≠ 0)
    (targets : List Right) (mdata ad : Option CC.Bytes) (n : Rng) (k : DKey) (h : Header)
    (hg : (hdrGenerate w.msk.mpk targets mdata ad n).1 = .ok (k, h)) (hs : XEncSmall h.enc)
    (hm : ∀ m, mdata = some m → m.length + 28 < 2 ^ 64) (rest : Bytes) :
    header c (encHeader (h.toWire L) ++ rest) = some (h.toWire L, rest) := by
  obtain ⟨he, -, hmd, -⟩ := hdrGenerate_ok hg
  have hwf := xenc_wf L h.enc ((encaps_ok_spec he).2.2.2.1 ▸ hk) hs
  -- the metadata on the wire, when present, is nonce ‖ box of some `m`: `m.length + 28` bytes
  have hlen : ∀ b, (h.toWire L).mdata = some b → ∃ m, mdata = some m ∧ b.length = m.length + 28 := fun b hb => by
    obtain ⟨sl, hsl, rfl⟩ := Option.map_eq_some_iff.1 hb
    obtain ⟨m, rfl, rfl⟩ := Option.map_eq_some_iff.1 (hmd ▸ hsl)
    refine ⟨m, rfl, ?_⟩
    rw [List.length_append, L.nonce_len, L.box_len]
    exact Nat.add_left_comm 12 m.length 16
  rw [header_roundtrip c _ hwf (fun b hb => let ⟨m, hm', e⟩ := hlen b hb; e ▸ hm m hm') rest,
    normMdata_eq_self fun b hb => let ⟨m, _, e⟩ := hlen b hb; List.ne_nil_of_length_pos (e ▸ Nat.succ_pos _)]

theorem strBytes_inj {a b : String} (h : strBytes a = strBytes b) : a = b :=
  String.toByteArray_inj.1 (ByteArray.ext (Array.toList_inj.1 h))

theorem flag_inj : ∀ a b : Bool, ((if a then 1 else 0 : Nat) = if b then 1 else 0) → a = b := by decide
theorem flag_inj_neg : ∀ a b : Bool, ((if a then 0 else 1 : Nat) = if b then 0 else 1) → a = b := by decide

theorem attr_toWire_inj {p q : String × Attr} (h : Attr.toWire p.1 p.2 = Attr.toWire q.1 q.2) : p = q := by
  obtain ⟨n, ⟨i, hy, ro⟩⟩ := p
  simp only [Attr.toWire, WAttr.mk.injEq] at h
  obtain ⟨h1, rfl, h3, h4⟩ := h
  rw [strBytes_inj h1, flag_inj _ _ h3, flag_inj_neg _ _ h4]

theorem dim_toWire_inj {p q : String × Dim} (h : Dim.toWire p.1 p.2 = Dim.toWire q.1 q.2) : p = q := by
  obtain ⟨n, ⟨o, as⟩⟩ := p
  simp only [Dim.toWire, WDim.mk.injEq] at h
  obtain ⟨h1, h2, h3⟩ := h
  rw [strBytes_inj h1, flag_inj _ _ h2, (List.map_inj_right fun _ _ => attr_toWire_inj).1 h3]

theorem struct_toWire_inj {s t : Struct} (h : s.toWire = t.toWire) : s = t := by
  obtain ⟨n, ds⟩ := s
  simp only [Struct.toWire, WStruct.mk.injEq, Option.some.injEq, true_and] at h
  rw [h.1, (List.map_inj_right fun _ _ => dim_toWire_inj).1 h.2]

/-- distinct tokens have distinct representations (true of the real leaves up to collisions of
random 256-bit values) -/
def LeavesInj (L : Leaves c) : Prop :=
  (∀ a b, L.scalar a = L.scalar b → a = b) ∧ (∀ a b, L.sigKey a = L.sigKey b → a = b)

theorem sk_toWire_inj (L : Leaves c) (hL : LeavesInj L) {a b : Sk} (h : a.toWireSk L = b.toWireSk L) : a = b := by
  obtain ⟨t, hy⟩ := a
  simp only [Sk.toWireSk, WKey.mk.injEq] at h
  rw [hL.1 _ _ h.2.1, h.1]

theorem map_snd_inj {α β γ : Type} {f : β → γ} (hf : ∀ x y, f x = f y → x = y) (p q : α × β)
    (h : (p.1, f p.2) = (q.1, f q.2)) : p = q :=
  Prod.ext (Prod.mk.inj h).1 (hf _ _ (Prod.mk.inj h).2)

/-- **the wire object determines the symbolic master key** -/
theorem msk_toWire_inj (L : Leaves c) (hL : LeavesInj L) {a b : Msk} (h : a.toWire L = b.toWire L) : a = b := by
  obtain ⟨au, nt, us, se, sg, st⟩ := a
  simp only [Msk.toWire, WMsk.mk.injEq] at h
  obtain ⟨h1, h2, h3, h4, h5, h6⟩ := h
  obtain rfl := hL.1 _ _ h1
  have h2' := congrArg List.length h2
  rw [List.length_map, List.length_map, tracerToks_length, tracerToks_length] at h2'
  rw [h2', (List.map_inj_right fun _ _ => (List.map_inj_right hL.1).1).1 h3,
    (List.map_inj_right (map_snd_inj fun _ _ =>
      (List.map_inj_right (map_snd_inj fun _ _ => sk_toWire_inj L hL)).1)).1 h4,
    (Option.map_inj_right hL.2).1 h5, struct_toWire_inj h6]

/-- **using the deserialised master key instead of the original changes no later outcome**: `m'` is
any symbolic key whose layout is what the decoder returned; every history continued from it is, world
by world, the history continued from the original -/
theorem store_load_is_invisible (L : Leaves c) (hL : LeavesInj L) (w : World) (h : Reachable w)
    (hk : w.msk.ntracers ≠ 0) (hs : MskSmall w.msk) (m' : Msk) (rest : Bytes)
    (hload : (msk c (encMsk (w.msk.toWire L) ++ rest)).map (·.1) = some (m'.toWire L)) (ops : List Op) :
    ops.foldl World.step ⟨m', w.rng⟩ = ops.foldl World.step w := by
  rw [reachable_msk_roundtrip L w h hk hs rest] at hload
  rw [msk_toWire_inj L hL (Option.some.inj hload).symm]

/-- non-vacuity: leaf representations of both configurations' sizes exist (`CC.Model.Shape`) -/
example : Leaves cfgC25519 := zeroLeavesC25519
example : Leaves cfgP256 := zeroLeavesP256

/-- boolean form of `MskSmall`, for the tests below -/
def mskSmallB (m : Msk) : Bool :=
  decide (m.ntracers < 2 ^ 64) && decide (m.users.length < 2 ^ 64) && decide (m.secrets.length < 2 ^ 64) &&
  m.secrets.all (fun p => decide (p.1.length < 2 ^ 64) && decide (p.2.length < 2 ^ 64)) &&
  decide (m.structure_.nextId < 2 ^ 64) && decide (m.structure_.dims.length < 2 ^ 64) &&
  m.structure_.dims.all (fun p => decide ((strBytes p.1).length < 2 ^ 64) && decide (p.2.attrs.length < 2 ^ 64) &&
    p.2.attrs.all (fun q => decide ((strBytes q.1).length < 2 ^ 64)))

/-- non-vacuity (tests, run by the interpreter): a world reached by a short history meets every
hypothesis of `reachable_msk_roundtrip` / `store_load_is_invisible` -/
def sampleWorld : World :=
  [Op.edit (.addDim "D" false), .edit (.addAttr "D" "A" false none), .edit (.addAttr "D" "B" true none),
   .edit (.addDim "H" true), .edit (.addAttr "H" "L" false none), .update,
   .rekey (.term ⟨"D", "A"⟩), .keygen (.term ⟨"D", "B"⟩)].foldl World.step (World.init 0 2)

#guard sampleWorld.msk.ntracers == 2
#guard mskSmallB sampleWorld.msk
#guard sampleWorld.msk.secrets.length == 6
#guard sampleWorld.msk.users.length == 1

example : Reachable sampleWorld := ⟨0, 2, _, rfl⟩

end CC.Props.C13Reach
