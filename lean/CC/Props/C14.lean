import CC.Model.Wire
import CC.Model.Keys
import CC.Generated.Allocs
/-! # C14 — deserializing or using untrusted bytes never crashes, hangs or over-allocates

The decoders of `CC.Model.Wire` are total, with two outcomes (a value, or `none` = error). The
theorems bound the work and the pre-allocation by the input length for *every* byte string, and show
that the accessors' subtractions cannot underflow on decoded values. -/

namespace CC.Props.C14
open CC CC.Wire

/-! A hypothesis `d bs = some _` is taken apart stage by stage with `split` (the decoders are cascades
of `match`), an error at a stage closed by `cases`. -/

theorem takeN_rest (n : Nat) (bs b r : Bytes) (h : takeN n bs = some (b, r)) :
    b.length = n ∧ r.length + n = bs.length := by
  unfold takeN at h
  split at h
  · cases h
  · rename_i hlt
    cases h
    rw [List.length_take, List.length_drop]
    exact ⟨Nat.min_eq_left (Nat.le_of_not_lt hlt), Nat.sub_add_cancel (Nat.le_of_not_lt hlt)⟩

theorem decU64Aux_progress : ∀ (bs : Bytes) (shift acc fuel : Nat) (v : Nat) (r : Bytes),
    Leb.decU64Aux bs shift acc fuel = some (v, r) → r.length < bs.length
  | _, _, _, 0, _, _, h => by rw [Leb.decU64Aux] at h; cases h
  | [], _, _, _ + 1, _, _, h => by cases h
  | b :: rest, shift, acc, fuel + 1, v, r, h => by
    rw [Leb.decU64Aux] at h
    split at h
    · cases h
    split at h
    · cases h; exact Nat.lt_succ_self _
    · exact Nat.lt_succ_of_lt (decU64Aux_progress rest _ _ fuel v r h)

/-- reading a count or a length consumes at least one byte -/
theorem leb_progress (bs : Bytes) (v : Nat) (r : Bytes) (h : leb bs = some (v, r)) : r.length < bs.length :=
  decU64Aux_progress bs 0 0 10 v r h

/-- a vector is only read (and allocated) when the announced length fits in what remains -/
theorem vec_bounded (bs b r : Bytes) (h : vec bs = some (b, r)) : b.length + r.length < bs.length := by
  unfold vec at h
  split at h
  · cases h
  · rename_i n r' hl
    have h2 := takeN_rest n r' b r h
    rw [h2.1, Nat.add_comm, h2.2]
    exact leb_progress bs n r' hl

/-- number of element reads performed by `for _ in 0..n { read }` -/
def manySteps {α : Type} : Nat → Dec α → Bytes → Nat
  | 0, _, _ => 0
  | n + 1, d, bs =>
    match d bs with
    | none => 1
    | some (_, r) => 1 + manySteps n d r

/-- **work is bounded by the input, not by the announced count**: a loop whose element reader
consumes at least one byte per element performs at most `|input| + 1` reads -/
theorem manySteps_le {α : Type} (d : Dec α) (hprog : ∀ bs a r, d bs = some (a, r) → r.length < bs.length) :
    ∀ (n : Nat) (bs : Bytes), manySteps n d bs ≤ bs.length + 1
  | 0, _ => Nat.zero_le _
  | n + 1, bs => by
    rw [manySteps]
    split
    · exact Nat.le_add_left 1 _
    · rename_i a r hd
      rw [Nat.add_comm]
      exact Nat.succ_le_succ (Nat.le_trans (manySteps_le d hprog n r) (hprog bs a r hd))

/-- a count larger than the remaining input is always an error -/
theorem many_count_bounded {α : Type} (d : Dec α) (hprog : ∀ bs a r, d bs = some (a, r) → r.length < bs.length) :
    ∀ (n : Nat) (bs : Bytes) (l : List α) (r : Bytes), many n d bs = some (l, r) → n + r.length ≤ bs.length
  | 0, bs, l, r, h => by cases h; exact Nat.le_of_eq (Nat.zero_add _)
  | n + 1, bs, l, r, h => by
    unfold many at h
    split at h
    · cases h
    rename_i a r' hd
    split at h
    · cases h
    rename_i as r'' hm
    cases h
    rw [Nat.add_right_comm]
    exact Nat.lt_of_le_of_lt (many_count_bounded d hprog n r' as r hm) (hprog bs a r' hd)

/-- `bounded_capacity(n, de)`: the pre-allocation never exceeds the number of remaining bytes -/
def boundedCapacity (n : Nat) (remaining : Bytes) : Nat := min n remaining.length

theorem boundedCapacity_le (n : Nat) (bs : Bytes) : boundedCapacity n bs ≤ bs.length := Nat.min_le_right _ _

/-- the tie to the source, re-extracted on every run: every `with_capacity` inside a deserialiser is
wrapped in `bounded_capacity` (or is a constant), and no deserialiser calls the unchecked
`Deserializer::read_vec` directly -/
theorem source_allocations_bounded : CC.Generated.allocsAvailable = true →
    CC.Generated.capacities.all (fun p => p.2.2) = true ∧ CC.Generated.rawReadVec = [] := by
  decide

theorem many_succ_ne_nil {α : Type} (d : Dec α) (n : Nat) (bs : Bytes) (l : List α) (r : Bytes)
    (h : many (n + 1) d bs = some (l, r)) : l ≠ [] := by
  unfold many at h
  split at h
  · cases h
  split at h
  · cases h
  · cases h; exact List.cons_ne_nil _ _

theorem counted_nonempty {α : Type} (d : Dec α) (bs : Bytes) (l : List α) (r : Bytes)
    (h : counted d true bs = some (l, r)) : l ≠ [] := by
  unfold counted at h
  split at h
  · cases h
  rename_i n r1 _
  cases n with
  | zero => cases h
  | succ n => exact many_succ_ne_nil d n r1 l r h

/-- a decoded encapsulation has at least one trap: `tracing_level() = c.len() - 1` cannot underflow -/
theorem xenc_traps_nonempty (c : Cfg) (bs : Bytes) (x : WEnc) (r : Bytes) (h : xenc c bs = some (x, r)) : x.c ≠ [] := by
  unfold xenc at h
  split at h
  · cases h
  split at h
  · cases h
  rename_i htraps
  have hne := counted_nonempty _ _ _ _ htraps
  split at h
  · cases h
  split at h
  · obtain ⟨p, -, hp⟩ := Option.map_eq_some_iff.1 h; cases hp; exact hne
  split at h
  · obtain ⟨p, -, hp⟩ := Option.map_eq_some_iff.1 h; cases hp; exact hne
  · cases h

/-- the identifier was read as a non-empty counted list, the chains went through the filter that
drops empty ones -/
theorem usk_inv (c : Cfg) (bs : Bytes) (u : WUsk) (r : Bytes) (h : usk c bs = some (u, r)) :
    (∃ r1, userId c bs = some (u.id, r1)) ∧
      ∃ l : List (Bytes × List WKey), u.secrets = l.filter (fun p => !p.2.isEmpty) := by
  unfold usk at h
  split at h
  · cases h
  rename_i hid
  split at h
  · cases h
  split at h
  · cases h
  rename_i l _ _
  split at h
  · cases h; exact ⟨⟨_, hid⟩, l, rfl⟩
  · obtain ⟨p, -, hp⟩ := Option.map_eq_some_iff.1 h; cases hp; exact ⟨⟨_, hid⟩, l, rfl⟩

/-- a decoded user key carries at least one marker: `UserSecretKey::tracing_level() = id.len() - 1`
cannot underflow -/
theorem usk_id_nonempty (c : Cfg) (bs : Bytes) (u : WUsk) (r : Bytes) (h : usk c bs = some (u, r)) : u.id ≠ [] :=
  let ⟨⟨_, hid⟩, _⟩ := usk_inv c bs u r h
  counted_nonempty _ _ _ _ hid

/-- every chain of a decoded user key is non-empty (the reader drops empty chains) -/
theorem usk_chains_nonempty (c : Cfg) (bs : Bytes) (u : WUsk) (r : Bytes) (h : usk c bs = some (u, r)) :
    ∀ p ∈ u.secrets, p.2 ≠ [] := by
  obtain ⟨-, l, hl⟩ := usk_inv c bs u r h
  intro p hp he
  rw [hl, List.mem_filter, he] at hp
  exact absurd hp.2 (by decide)

/-- a decoded public key has at least one tracing point (`MasterPublicKey::tracing_level`) -/
theorem mpk_tpk_nonempty (c : Cfg) (bs : Bytes) (m : WMpk) (r : Bytes) (h : mpk c bs = some (m, r)) : m.tpk ≠ [] := by
  unfold mpk at h
  split at h
  · cases h
  rename_i htpk
  have hne := counted_nonempty _ _ _ _ htpk
  split at h
  · cases h
  split at h
  · cases h
  cases h; exact hne

/-- a decoded V1 access structure (no stored identifier counter) only holds identifiers with a
successor below `2^64`: the counter `max(id) + 1` the reader recomputes cannot overflow (D14) -/
theorem v1_ids_have_successor (bs : Bytes) (s : WStruct) (r : Bytes) (h : struct_ bs = some (s, r))
    (hv : s.version = 0) : ∀ d ∈ s.dims, ∀ a ∈ d.attrs, a.id + 1 < 2 ^ 64 := by
  unfold struct_ at h
  split at h
  · cases h
  split at h
  · cases h
  split at h
  · cases h
  split at h
  · cases h
  split at h
  · cases h
  split at h
  · cases h
  · rename_i hno
    cases h
    intro d hd a ha
    refine Nat.lt_of_not_le fun hge => hno ⟨hv, ?_⟩
    exact List.any_eq_true.2 ⟨d, hd, List.any_eq_true.2 ⟨a, ha, decide_eq_true hge⟩⟩

/-- a decoded master key has at least one tracer, and every registered identifier at least one
marker (`TracingSecretKey::tracing_level`, `UserId::tracing_level`; `full_decaps` divides by the
first tracer) -/
theorem msk_tracers_nonempty (c : Cfg) (bs : Bytes) (m : WMsk) (r : Bytes) (h : msk c bs = some (m, r)) :
    m.tracers ≠ [] := by
  unfold msk at h
  split at h
  · cases h
  split at h
  · cases h
  rename_i htr
  have hne := counted_nonempty _ _ _ _ htr
  split at h
  · cases h
  split at h
  · cases h
  split at h
  · cases h
  split at h
  · cases h
  cases h; exact hne

/-- a decoded header's encapsulation has at least one trap (header decryption calls `decaps`) -/
theorem header_traps_nonempty (c : Cfg) (bs : Bytes) (hd : WHeader) (r : Bytes) (h : header c bs = some (hd, r)) :
    hd.enc.c ≠ [] := by
  unfold header at h
  split at h
  · cases h
  rename_i hx
  obtain ⟨p, -, hp⟩ := Option.map_eq_some_iff.1 h
  cases hp
  exact xenc_traps_nonempty c bs _ _ hx

/-- the (repaired) revision iterator terminates: at most as many revisions as there are secrets -/
theorem revisions_bounded (chains : RevVec) : (revisions chains).length ≤ revTotal chains := by
  induction chains using revisions.induct with
  | case1 chains h => rw [revisions, dif_pos h]; exact Nat.zero_le _
  | case2 chains h ih =>
    rw [revisions, dif_neg h]
    have := revTotal_tails_lt chains h
    simp only [List.length_cons]
    omega

theorem revisions_nil : revisions [] = [] := by
  rw [revisions]; simp [revHeads]

/-- non-vacuity: a count of 2^64-1 on a 3-byte remainder fails after at most 4 reads -/
example : manySteps (2 ^ 64 - 1) (takeN 1) [1, 2, 3] ≤ 4 :=
  manySteps_le (takeN 1) (fun bs a r h => by have := takeN_rest 1 bs a r h; omega) _ _

end CC.Props.C14
