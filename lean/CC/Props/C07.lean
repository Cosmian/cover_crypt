import CC.Model.HashBind
import CC.Generated.Hashing
import CC.Generated.Consts
import CC.Model.Sym
import CC.Props.C12
import CC.Model.Wire
import CC.Props.C13
import CC.Lemmas.Blocks
/-! # C07 — encapsulations and ciphertexts are non-malleable -/

namespace CC.Props.C07
open CC CC.HB

/-- the tag is long enough for the 2^-128 bound and the masked seeds have a fixed positive size —
checked on the constants read from the source on every run -/
theorem sizes_ok : CC.Generated.constsAvailable = true →
    16 ≤ CC.Generated.TAG_LENGTH ∧ 0 < CC.Generated.SHARED_SECRET_LENGTH ∧
    0 < CC.Generated.MlKem512_ENC ∧ 0 < CC.Generated.MlKem768_ENC ∧
    0 < CC.Generated.R25519_POINT ∧ 0 < CC.Generated.P256_POINT := by decide

/- The order in which the (de)capsulation functions feed the hashers is extracted on every run
(`CC.Generated.Hashing`, reported in the evidence) but is not a proof obligation: a harmless rename of
a local variable would break the extraction. The tie of `CC.HB.T`, `CC.HB.U`, `CC.HB.tagFor` to the
code is behavioural: the golden corpus of the pinned release must still open with the same secrets. -/

section
variable (HT HU : Bytes → Bytes) (Jtag : Bytes → Bytes → Bytes)
variable (hHT : Function.Injective HT) (hHU : Function.Injective HU)
variable (hJ : ∀ s u s' u', Jtag s u = Jtag s' u' → s = s' ∧ u = u')
variable (hTlen : ∀ a b, (HT a).length = (HT b).length)
variable (PL EL : Nat) (hEL : 0 < EL)

include hHT hHU hJ hTlen hEL in
/-- **Binding.** `x0` is an honest encapsulation of seed `s0`, `x` any received value with the same
tag. If `decaps` accepts `x` for some candidate seed `s` (the recomputed tag matches and the
Fujisaki–Okamoto check re-derives the received traps), then `x` is `x0` component by component, in
the same order, and `s = s0`: reordering, dropping, duplicating or swapping components, or changing
any byte of one, yields no secret. -/
theorem binding (x x0 : Enc) (s s0 : Bytes)
    (hx : WF PL EL x) (hx0 : WF PL EL x0)
    (htag0 : x0.tag = tagFor HT HU Jtag x0 s0)
    (hsame : x.tag = x0.tag)
    (hchk : x.tag = tagFor HT HU Jtag x s)
    (hfo : x.c = x0.c) :
    s = s0 ∧ x.c = x0.c ∧ x.es = x0.es ∧ x.fs = x0.fs := by
  have h1 : Jtag s (U HT HU x) = Jtag s0 (U HT HU x0) := by
    unfold tagFor at htag0 hchk; rw [← hchk, hsame, htag0]
  obtain ⟨hs, hu⟩ := hJ _ _ _ _ h1
  have h2 := hHU hu
  obtain ⟨hT, hF⟩ := List.append_inj h2 (hTlen _ _)
  have h3 := hHT hT
  rw [hfo] at h3
  have hE := List.append_cancel_left h3
  exact ⟨hs, hfo, flatten_inj_of_length EL hEL _ _ hx.2.1 hx0.2.1 hE,
    flatten_inj_of_length _ (sizes_ok (by decide)).2.1 _ _ hx.2.2 hx0.2.2 hF⟩

include hHT hHU hJ hTlen hEL in
/-- a received value that differs from the honest encapsulation in its traps-consistent part
(ciphertexts or masked seeds) is rejected for every candidate seed -/
theorem modified_rejected (x x0 : Enc) (s s0 : Bytes)
    (hx : WF PL EL x) (hx0 : WF PL EL x0)
    (htag0 : x0.tag = tagFor HT HU Jtag x0 s0) (hsame : x.tag = x0.tag) (hfo : x.c = x0.c)
    (hdiff : x.es ≠ x0.es ∨ x.fs ≠ x0.fs) : x.tag ≠ tagFor HT HU Jtag x s := by
  intro hchk
  obtain ⟨_, _, h1, h2⟩ := binding HT HU Jtag hHT hHU hJ hTlen PL EL hEL x x0 s s0 hx hx0 htag0 hsame hchk hfo
  rcases hdiff with h | h
  · exact h h1
  · exact h h2

end

/-- any modification of a PKE ciphertext is rejected (from the AEAD idealisation, see `C12`) -/
theorem pke_ciphertext_non_malleable (usk : Usk) (x : XEnc) (c : Sealed) (seed : Nat)
    (h : decaps usk x = some seed) (ht : c.tamper ≠ .intact) :
    pkeDecrypt usk (x, c) = .error .crypto :=
  CC.Props.C12.pke_tampered_rejected usk x c seed h ht

/-- any modification of encrypted header metadata is rejected -/
theorem header_metadata_non_malleable (usk : Usk) (x : XEnc) (c : Sealed) (seed : Nat) (ad : Option CC.Bytes)
    (h : decaps usk x = some seed) (ht : c.tamper ≠ .intact) :
    hdrDecrypt usk ⟨x, some c⟩ ad = .error .crypto :=
  CC.Props.C12.header_tampered_rejected usk x c seed ad h ht

/-! ## D15 — the serialised form is malleable through LEB128

At the level of *bytes* the property is false of the code and of the model: the LEB128 decoder accepts
redundant continuation bytes (`02` as `82 00`), so a modified byte string can decode to the very same
encapsulation. `binding` is about the decoded components and stays true. Witness by evaluation;
replayed on the implementation by the `noncanon` operator of the C07 campaign (known finding D15). -/

/-- two different byte strings, one number -/
theorem noncanonical_leb_accepted : Wire.leb [0x82, 0x00] = Wire.leb [0x02] ∧ ([0x82, 0x00] : List UInt8) ≠ [0x02] := by
  decide

/-- hence two different serialisations of one (classic, one-trap, one-component) encapsulation -/
theorem encapsulation_bytes_malleable :
    let tag := List.replicate 16 (0 : UInt8)
    let trap := List.replicate 32 (1 : UInt8)
    let f := List.replicate 32 (2 : UInt8)
    let honest := tag ++ [0x01] ++ trap ++ [0x00] ++ [0x01] ++ f
    let padded := tag ++ [0x81, 0x00] ++ trap ++ [0x00] ++ [0x01] ++ f
    honest ≠ padded ∧ Wire.xenc Wire.cfgC25519 padded = Wire.xenc Wire.cfgC25519 honest ∧
      (Wire.xenc Wire.cfgC25519 honest).isSome = true := by
  decide

/-- what remains true at the level of bytes (`…_partial`: the full statement is disproved above): on
canonical serialisations — what `serialize` writes — two different well-formed encapsulations never
share their bytes. A modification that keeps the bytes canonical changes the decoded encapsulation,
and `binding` then applies to its components. -/
theorem canonical_bytes_determine_encapsulation_partial (c : Wire.Cfg) (x y : Wire.WEnc)
    (hx : CC.Props.C13.WfEnc c x) (hy : CC.Props.C13.WfEnc c y) (h : Wire.encXenc x = Wire.encXenc y) : x = y := by
  have h1 := CC.Props.C13.xenc_roundtrip c x hx []
  rw [h, CC.Props.C13.xenc_roundtrip c y hy []] at h1
  exact (Prod.mk.inj (Option.some.inj h1)).1.symm

end CC.Props.C07
