import CC.Lemmas.Cover
import CC.Lemmas.Kem
import CC.Lemmas.World
/-! # C01 — authorized keys always recover exactly the encapsulated secret

Statements about the model functions the driver executes (`combine`, `Right.fromPoint`,
`decaps`, …). The end-to-end statement is `C01.authorized_opens` (see also `CC.Props.C02`). -/

namespace CC.Props.C01
open CC

/-- the points of `combine` are exactly the choices of at most one attribute per dimension, hint and
read-only status being the disjunction over the chosen attributes -/
theorem combine_points (ds : List Dim) (p : List Nat) (h r : Bool) :
    (p, h, r) ∈ combine ds ↔
      ∃ as, Choice ds as ∧ p = as.map (·.id) ∧ h = as.any (·.hyb) ∧ r = as.any (·.ro) :=
  mem_combine ds p h r

/-- a right is determined by the *set* of ids of its point, whatever the order in which the
dimensions were iterated -/
theorem right_of_point (p q : List Nat) : Right.fromPoint p = Right.fromPoint q ↔ p.Perm q :=
  Right.fromPoint_eq_iff p q

/-- whenever one secret of the key, in any chain and at any depth, opens a component,
decapsulation returns exactly the secret of the encapsulation -/
theorem decaps_opens (usk : Usk) (enc : XEnc) (h : CanOpen usk enc) :
    decaps usk enc = some enc.seed :=
  (decaps_eq_some_iff usk enc enc.seed).2 ⟨rfl, h⟩

/-- **Pure layer, all structures and policies.** For every well-formed structure and all well-formed
policies: the rights computed for the user key and for the encapsulation share a right iff the
*name-level* cover relation of the specification holds. -/
theorem rights_meet_iff_covers (S : Struct) (hS : S.WF) (u e : AP)
    (hu : Spec.policyWf S u = true) (he : Spec.policyWf S e = true) :
    ∃ ru re, S.uskRights u = .ok ru ∧ S.encRights e = .ok re ∧
      ((∃ r, r ∈ re ∧ r ∈ ru) ↔ Spec.covers S u e = true) :=
  CC.rights_meet_iff_covers hS hu he

/-- **C01, end to end on the model.** Whenever the user policy covers the encryption policy, the
key generated by the master key for the user policy opens the encapsulation made under the master
key's public key for the encryption policy, and returns exactly the encapsulated secret. Holds for
classic and hybridized rights alike (the flavour is whatever `encaps` selected). -/
theorem authorized_opens (msk : Msk) (hS : msk.structure_.WF) (hd : msk.Distinct) (u e : AP)
    (hu : Spec.policyWf msk.structure_ u = true) (he : Spec.policyWf msk.structure_ e = true)
    (ru re : List Right) (hru : msk.structure_.uskRights u = .ok ru) (hre : msk.mpk.structure_.encRights e = .ok re)
    (n n' : Rng) (usk : Usk) (s : Nat) (x : XEnc)
    (hk : (uskKeygen msk ru n).1 = .ok usk) (hen : (encaps msk.mpk re n').1 = .ok (s, x))
    (hcov : Spec.covers msk.structure_ u e = true) : decaps usk x = some s :=
  (keygen_encaps_decaps msk hd ru re n n' usk s x hk hen).1.2 ((rights_meet_iff hS hu he hru hre).2 hcov)

/-- **C01 over every history.** In every world reachable from `setup` by any sequence of operations
(refreshes of forged keys included): if the user policy covers the encryption policy, both well
formed over the current structure, the key generated now opens the encapsulation made now under the
current public key and returns exactly its secret. No hypothesis on the state is left. -/
theorem authorized_opens_reachable (w : World) (hw : Reachable w) (u e : AP)
    (hu : Spec.policyWf w.msk.structure_ u = true) (he : Spec.policyWf w.msk.structure_ e = true)
    (ru re : List Right) (hru : w.msk.structure_.uskRights u = .ok ru) (hre : w.msk.mpk.structure_.encRights e = .ok re)
    (n n' : Rng) (usk : Usk) (s : Nat) (x : XEnc)
    (hk : (uskKeygen w.msk ru n).1 = .ok usk) (hen : (encaps w.msk.mpk re n').1 = .ok (s, x))
    (hcov : Spec.covers w.msk.structure_ u e = true) : decaps usk x = some s :=
  authorized_opens w.msk (reachable_struct_wf w hw).1 (reachable_inv w hw).distinct u e hu he ru re hru hre n n' usk s x hk hen hcov

/-- non-vacuity: a two-chain key whose second chain holds, at depth 2, the secret targeted -/
example : CanOpen
    { id := [7, 8], auth := 1, nps := 2, secrets := [([0], [⟨10, false⟩]), ([1], [⟨12, true⟩, ⟨11, true⟩])], sig := none }
    { auth := 1, ntraps := 2, hybrid := true, targets := [⟨11, true⟩], seed := 99 } := by
  refine ⟨rfl, rfl, rfl, [1], [⟨12, true⟩, ⟨11, true⟩], ⟨11, true⟩, ⟨11, true⟩, ?_, ?_, ?_, ?_⟩ <;> simp [opens]

end CC.Props.C01
