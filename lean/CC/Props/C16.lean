import CC.Lemmas.Sym
import CC.Lemmas.Chain
import CC.Lemmas.World
/-! # C16 — every secret, nonce and identifier is fresh (partial)

The CSPRNG is idealised as a counter of fresh tokens threaded through every operation. The theorems
establish the logic: every value that must be fresh is a draw of its own and the counter only moves
forward, so values drawn by different calls differ, for any history. **Partial:** a weak or
mis-seeded generator, state cloned across `fork` or an entropy failure cannot be exhibited by this
model; the statistical run of the check supports that part, it does not prove it. -/

namespace CC.Props.C16
open CC

/-- an encapsulation's seed (hence tag, traps, masked seeds and shared secret, injective functions
of it under the hash idealisation) is a draw of its own, and the counter moves past it -/
theorem encaps_seed_fresh (mpk : Mpk) (t : List Right) (n : Rng) (s : Nat) (x : XEnc)
    (h : (encaps mpk t n).1 = .ok (s, x)) : s = n ∧ x.seed = n ∧ n < (encaps mpk t n).2 :=
  encaps_ok h

theorem encaps_rng_mono (mpk : Mpk) (t : List Right) (n : Rng) : n ≤ (encaps mpk t n).2 := by
  unfold encaps
  split
  · exact Nat.le_refl n
  · exact Nat.le_trans (Nat.le_succ n) (Nat.le_add_right _ _)

/-- no two encapsulations share a seed, whatever happened in between -/
theorem two_encaps_distinct (mpk mpk' : Mpk) (t t' : List Right) (n m : Rng) (s s' : Nat) (x x' : XEnc)
    (h1 : (encaps mpk t n).1 = .ok (s, x)) (hm : (encaps mpk t n).2 ≤ m)
    (h2 : (encaps mpk' t' m).1 = .ok (s', x')) : s ≠ s' ∧ x.seed ≠ x'.seed := by
  obtain ⟨rfl, hx, hlt⟩ := encaps_ok h1
  obtain ⟨rfl, hx', -⟩ := encaps_ok h2
  rw [hx, hx']
  have : s < s' := Nat.lt_of_lt_of_le hlt hm
  exact ⟨Nat.ne_of_lt this, Nat.ne_of_lt this⟩

/-- the AEAD nonce of a PKE ciphertext is a draw of its own, made after the encapsulation's -/
theorem pke_nonce_fresh (mpk : Mpk) (t : List Right) (ptx : Bytes) (n : Rng) (x : XEnc) (c : Sealed)
    (h : (pkeEncrypt mpk t ptx n).1 = .ok (x, c)) :
    n < c.nonce ∧ c.nonce < (pkeEncrypt mpk t ptx n).2 ∧ c.nonce ≠ x.seed := by
  obtain ⟨he, rfl, hn⟩ := pkeEncrypt_ok h
  obtain ⟨-, hx, hlt⟩ := encaps_ok he
  rw [hn, hx]
  exact ⟨hlt, Nat.lt_succ_self _, Nat.ne_of_gt hlt⟩

/-- the same for encrypted header metadata -/
theorem header_nonce_fresh (mpk : Mpk) (t : List Right) (md : Bytes) (ad : Option Bytes) (n : Rng)
    (sec : DKey) (hd : Header) (h : (hdrGenerate mpk t (some md) ad n).1 = .ok (sec, hd)) :
    ∃ c, hd.mdata = some c ∧ n < c.nonce ∧ c.nonce < (hdrGenerate mpk t (some md) ad n).2 ∧ c.nonce ≠ hd.enc.seed := by
  obtain ⟨he, -, hm, hn⟩ := hdrGenerate_ok h
  obtain ⟨-, hx, hlt⟩ := encaps_ok he
  rw [hn, hx]
  exact ⟨_, hm, hlt, Nat.lt_succ_self _, Nat.ne_of_gt hlt⟩

/-- the new newest secret of a rekeyed right carries a token drawn by this call -/
theorem rekey_publishes_fresh (secrets : RevMap) (rights : List Right) (n : Rng) (r : Right) (hr : r ∈ rights)
    (hall : ∀ r ∈ rights, (secrets.getLatest r).isSome) :
    ∃ act sk, (rekeyLoop secrets rights n).2.1.getLatest r = some (act, sk) ∧ n ≤ sk.tok :=
  rekeyLoop_fresh secrets rights n r hr hall

/-- no two user keys share an identifier -/
theorem user_ids_fresh (msk : Msk) (rights : List Right) (n : Rng) (usk : Usk)
    (h : (uskKeygen msk rights n).1 = .ok usk) (old : UserId) (hold : ∀ m ∈ old, m < n) (hne : old ≠ []) :
    usk.id ≠ old :=
  uskKeygen_id_ne h hold

/-- the metadata encryption key differs from the secret handed to the caller -/
theorem metadata_key_ne_secret (seed : Nat) : (⟨seed, labelHdrSecret⟩ : DKey) ≠ ⟨seed, labelHdrKey⟩ :=
  fun h => absurd (DKey.mk.inj h).2 (by decide)

/-- the generator only moves forward along any sequence of operations from a reachable world -/
theorem steps_rng_mono (w : World) (hw : Reachable w) (ops : List Op) : w.rng ≤ (ops.foldl World.step w).rng :=
  World.foldl_induction (P := fun w' => w.rng ≤ w'.rng)
    (fun w' op h => Nat.le_trans h (step_rng_mono w' op)) (Nat.le_refl _) ops

/-- every token a reachable world publishes is below the generator's counter -/
theorem published_below (w : World) (hw : Reachable w) (r : Right) (pk : Sk) (h : (r, pk) ∈ w.msk.mpk.keys) :
    pk.tok < w.rng := by
  obtain ⟨chain, hm, hh⟩ := mem_mpk_keys.1 h
  exact (reachable_inv w hw).below r chain hm (true, pk) (List.mem_of_head? hh)

/-- **Every rekey publishes a value never published before, over every history.** Any reachable
world `w0`, any value `pk0` it publishes, any operations, then a rekey of rights the master key
holds: the newest secret of every rekeyed right is a draw of this call, hence differs from `pk0`. -/
theorem rekey_never_republishes (w0 : World) (hw0 : Reachable w0) (r0 : Right) (pk0 : Sk)
    (hpub : (r0, pk0) ∈ w0.msk.mpk.keys) (ops : List Op) (p : AP) (rights : List Right)
    (hr : (ops.foldl World.step w0).msk.structure_.uskRights p = .ok rights)
    (hall : ∀ r ∈ rights, ((ops.foldl World.step w0).msk.secrets.getLatest r).isSome)
    (r : Right) (hmem : r ∈ rights) :
    ∃ act sk, ((ops.foldl World.step w0).step (.rekey p)).msk.secrets.getLatest r = some (act, sk) ∧
      pk0.tok < sk.tok := by
  have h0 := published_below w0 hw0 r0 pk0 hpub
  have hmono := steps_rng_mono w0 hw0 ops
  generalize ops.foldl World.step w0 = w1 at hr hall hmono
  obtain ⟨act, sk, hl, hn⟩ := rekey_publishes_fresh w1.msk.secrets rights w1.rng r hmem hall
  refine ⟨act, sk, ?_, Nat.lt_of_lt_of_le (Nat.lt_of_lt_of_le h0 hmono) hn⟩
  simp only [World.step, hr]
  rcases rekey_cases w1.msk rights w1.rng with ⟨⟨r', hr', hn'⟩, _⟩ | ⟨_, e⟩
  · have := hall r' hr'
    rw [hn'] at this; cases this
  · rw [e]; exact hl

end CC.Props.C16
