import CC.Props.C16
/-! # C16 / C06 — a public value that has been replaced never comes back (over every history)

No operation can make a master key publish again, for any right, a value an earlier public key
carried and that has since been replaced (the oracle `republished-public-value` of the history
campaigns). By `step_chain`: tokens put in front of a chain or in a new chain are drawn by that
operation, the other cases keep the head or shorten the chain behind it; so a token already drawn
enters no chain it was not in, and no head it was not at. -/

namespace CC.Props.C16
open CC

/-- the token `t` occurs in no chain but that of `r0` -/
def OnlyUnder (t : Nat) (r0 : Right) (w : World) : Prop :=
  ∀ k c, w.msk.secrets.lookup k = some c → k ≠ r0 → ∀ v ∈ c, v.2.tok ≠ t

/-- the newest secret of `r0`, if `r0` still has one, is not `t` -/
def HeadNe (t : Nat) (r0 : Right) (w : World) : Prop :=
  ∀ c h0, w.msk.secrets.lookup r0 = some c → c.head? = some h0 → h0.2.tok ≠ t

theorem step_onlyUnder (t : Nat) (r0 : Right) (w : World) (op : Op) (ht : t < w.rng)
    (h : OnlyUnder t r0 w) : OnlyUnder t r0 (w.step op) := by
  intro k c' hl hk v hv e
  obtain ⟨c, ho, v0, hv0, e0⟩ := (hl ▸ step_chain w op k).tok_mem_old hv (e ▸ ht)
  exact h k c ho hk v0 hv0 (e0.trans e)

theorem step_headNe (t : Nat) (r0 : Right) (w : World) (op : Op) (ht : t < w.rng)
    (h : HeadNe t r0 w) : HeadNe t r0 (w.step op) := by
  intro c' h' hl hh e
  obtain ⟨c, h0, ho, hh0, e0⟩ := (hl ▸ step_chain w op r0).tok_head_old hh (e ▸ ht)
  exact h c h0 ho hh0 (e0.trans e)

theorem steps_keep {t : Nat} {P : World → Prop} (hstep : ∀ w op, t < w.rng → P w → P (w.step op))
    {w : World} (ht : t < w.rng) (h : P w) (ops : List Op) :
    t < (ops.foldl World.step w).rng ∧ P (ops.foldl World.step w) :=
  World.foldl_induction (P := fun w => t < w.rng ∧ P w)
    (fun w op h => ⟨Nat.lt_of_lt_of_le h.1 (step_rng_mono w op), hstep w op h.1 h.2⟩) ⟨ht, h⟩ ops

/-- **A replaced public value never comes back.** `pk0` is published for `r0` in a reachable world;
after `ops1` it is no longer the newest secret of `r0` (replaced, or the right is gone). Then,
whatever `ops2` follow, no public key carries `pk0`'s token again, for any right. -/
theorem replaced_value_never_returns (w0 : World) (hw0 : Reachable w0) (r0 : Right) (pk0 : Sk)
    (hpub : (r0, pk0) ∈ w0.msk.mpk.keys) (ops1 ops2 : List Op)
    (hrep : HeadNe pk0.tok r0 (ops1.foldl World.step w0))
    (r : Right) (pk : Sk)
    (h2 : (r, pk) ∈ (ops2.foldl World.step (ops1.foldl World.step w0)).msk.mpk.keys) :
    pk.tok ≠ pk0.tok := by
  have ht0 := published_below w0 hw0 r0 pk0 hpub
  -- at `w0` the token lives under `r0` only: no token serves two rights
  obtain ⟨chain0, hm0, hh0⟩ := mem_mpk_keys.1 hpub
  have hU0 : OnlyUnder pk0.tok r0 w0 := fun k c hl hk v hv heq =>
    hk ((reachable_inv w0 hw0).inj k c r0 chain0 v (true, pk0) (lookup_mem hl) hm0 hv (List.mem_of_head? hh0) heq)
  obtain ⟨ht1, hU1⟩ := steps_keep (step_onlyUnder _ r0) ht0 hU0 ops1
  obtain ⟨-, hU2, hH2⟩ := steps_keep (P := fun w => OnlyUnder pk0.tok r0 w ∧ HeadNe pk0.tok r0 w)
    (fun w op ht h => ⟨step_onlyUnder _ r0 w op ht h.1, step_headNe _ r0 w op ht h.2⟩) ht1 ⟨hU1, hrep⟩ ops2
  have hw2 := (hw0.steps ops1).steps ops2
  generalize ops2.foldl World.step (ops1.foldl World.step w0) = w2 at h2 hU2 hH2 hw2
  obtain ⟨chain, hm, hh⟩ := mem_mpk_keys.1 h2
  have hl : w2.msk.secrets.lookup r = some chain := (lookup_eq_some_iff_mem (reachable_inv w2 hw2).keys).2 hm
  by_cases hr : r = r0
  · exact hH2 chain (true, pk) (hr ▸ hl) hh
  · exact hU2 r chain hl hr (true, pk) (List.mem_of_head? hh)

end CC.Props.C16
