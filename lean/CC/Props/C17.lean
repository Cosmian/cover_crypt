import CC.Lemmas.Issued
/-! # C17 — every issued user key is registered (bookkeeping part; the algebraic tracing relation
is `CC.Props.C17Alg`) -/

namespace CC.Props.C17
open CC

/-- a generated key carries a registered identifier made of fresh markers, and the master key's
tracers -/
theorem keygen_registers (msk : Msk) (rights : List Right) (n : Rng) (usk : Usk)
    (h : (uskKeygen msk rights n).1 = .ok usk) :
    usk.id ∈ (uskKeygen msk rights n).2.1.users ∧ (∀ m ∈ usk.id, n ≤ m) ∧
      usk.id.length = msk.ntracers ∧ usk.auth = msk.auth ∧ usk.nps = msk.ntracers := by
  have hi := (keygen_issues msk rights n usk h).2
  obtain ⟨chains, -, -, rfl, -⟩ := uskKeygen_ok_spec h
  exact ⟨hi.1, fun m hm => (Msk.mem_freshId hm).1, msk.length_freshId n, rfl, rfl⟩

/-- the identifier of a new key differs from every identifier made of markers drawn earlier -/
theorem keygen_id_distinct (msk : Msk) (rights : List Right) (n : Rng) (usk : Usk)
    (h : (uskKeygen msk rights n).1 = .ok usk) (old : UserId) (hold : ∀ m ∈ old, m < n) (hne : old ≠ []) :
    usk.id ≠ old :=
  uskKeygen_id_ne h hold

/-- a key whose identifier the master key does not know is refused, with nothing changed -/
theorem unknown_id_refused (msk : Msk) (usk : Usk) (keep : Bool) (n : Rng)
    (hv : verify msk usk = true) (hid : usk.id ∉ msk.users) :
    refresh msk usk keep n = (.error .tracing, msk, usk, n) := by
  unfold refresh refreshId
  rw [hv, if_neg (show ¬ (!true) = true from Bool.false_ne_true), if_pos hid]

/-- a successful refresh keeps the key registered: its identifier is (still) recorded -/
theorem refresh_stays_registered (msk : Msk) (usk : Usk) (keep : Bool) (n : Rng)
    (hlen : usk.id.length = msk.ntracers) (h : (refresh msk usk keep n).1 = .ok ()) :
    (refresh msk usk keep n).2.2.1.id = usk.id ∧ usk.id ∈ (refresh msk usk keep n).2.1.users := by
  have hk := ((refresh_ok_iff msk usk keep n).1 h).2.1
  obtain ⟨-, nid, nr, hid, -, e⟩ := refresh_ok_spec h
  rw [refreshId_same_level n hk hlen] at hid e
  cases hid
  rw [e]; exact ⟨rfl, hk⟩

/-- in every reachable world all registered identifiers are made of tokens drawn already -/
theorem reachable_usersBelow (w : World) (hw : Reachable w) : w.UsersBelow :=
  hw.induction
    (fun n k => (step_frame ⟨(setup n k).1, (setup n k).2⟩ .update).usersBelow fun _ h => nomatch h)
    fun w op _ => (step_frame w op).usersBelow

/-- **Identifiers are never reused, over every history.** In any reachable world a key generation
hands out an identifier that is not among the registered ones, and the key stays an issued key
(identifier registered, signature valid) after any further operations. -/
theorem new_key_id_fresh_and_stays_registered (w : World) (hw : Reachable w) (p : AP) (rights : List Right)
    (hr : w.msk.structure_.uskRights p = .ok rights) (usk : Usk)
    (hk : (uskKeygen w.msk rights w.rng).1 = .ok usk) (ops : List Op) :
    usk.id ∉ w.msk.users ∧ Issued (ops.foldl World.step (w.step (.keygen p))).msk usk := by
  refine ⟨fun hin => ?_, issued_stable _ ops usk (keygen_step_issues hr hk)⟩
  exact uskKeygen_id_ne hk (reachable_usersBelow w hw usk.id hin) rfl

end CC.Props.C17
