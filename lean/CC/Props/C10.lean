import CC.Lemmas.Frame
import CC.Model.World
/-! # C10 — failed operations leave keys untouched

The model functions return the state the code leaves behind on each path (`updateMsk` returns a
master key without secrets on the error branch inside the loop, where the Rust code has already
`take`n them). Those branches are unreachable once the up-front validation passed, for every state
and argument. -/

namespace CC.Props.C10
open CC

/-- `update_msk` -/
theorem update_failed_untouched (msk : Msk) (rights : List (Right × Bool × Bool)) (n : Rng) (e : Err)
    (h : (updateMsk msk rights n).1 = .error e) : (updateMsk msk rights n).2.1 = msk := by
  rcases updateMsk_cases msk rights n with ⟨_, e'⟩ | ⟨_, s, _, e'⟩ <;> rw [e'] at h ⊢
  cases h

/-- `rekey`: never partially rotated, whatever the position of the failing right -/
theorem rekey_failed_untouched (msk : Msk) (rights : List Right) (n : Rng) (e : Err)
    (h : (rekey msk rights n).1 = .error e) : (rekey msk rights n).2.1 = msk := by
  rcases rekey_cases msk rights n with ⟨_, e'⟩ | ⟨_, e'⟩ <;> rw [e'] at h ⊢
  cases h

/-- `usk_keygen`: no user is registered when key generation fails -/
theorem keygen_failed_untouched (msk : Msk) (rights : List Right) (n : Rng) (e : Err)
    (h : (uskKeygen msk rights n).1 = .error e) : (uskKeygen msk rights n).2.1 = msk := by
  rcases uskKeygen_cases msk rights n with ⟨_, e'⟩ | ⟨_, _, _, e'⟩ <;> rw [e'] at h ⊢
  cases h

/-- `refresh`: the user key is never emptied; the master key is untouched -/
theorem refresh_failed_untouched (msk : Msk) (usk : Usk) (keep : Bool) (n : Rng) (e : Err)
    (h : (refresh msk usk keep n).1 = .error e) (hlvl : usk.id.length = msk.ntracers) :
    (refresh msk usk keep n).2.2.1 = usk ∧ (refresh msk usk keep n).2.1 = msk := by
  -- the exchange of an identifier of the current level, refused or not, leaves the master key alone
  have hmsk : (refreshId msk usk.id n).2.1 = msk := by
    rcases refreshId_cases msk usk.id n with ⟨_, e⟩ | ⟨_, _, e⟩ | ⟨_, hl', _⟩ | ⟨_, hl', _⟩
    · rw [e]
    · rw [e]
    · exact absurd hlvl hl'
    · exact absurd hlvl hl'
  rw [refresh_eq] at h ⊢
  split at h
  · rename_i hv; rw [if_pos hv]; exact ⟨rfl, rfl⟩
  rename_i hv
  rw [if_neg hv]
  split at h
  · exact ⟨rfl, hmsk⟩
  · exact ⟨rfl, hmsk⟩
  · cases h

/-- what an operation of the world machine reports to the caller -/
def opResult (w : World) : Op → Except Err Unit
  | .edit e => (w.msk.structure_.apply e).map (fun _ => ())
  | .update => (updateMsk w.msk w.msk.structure_.omega w.rng).1
  | .rekey p => match w.msk.structure_.uskRights p with
    | .error e => .error e
    | .ok rights => (rekey w.msk rights w.rng).1
  | .prune p => (w.msk.structure_.uskRights p).map (fun _ => ())
  | .keygen p => match w.msk.structure_.uskRights p with
    | .error e => .error e
    | .ok rights => (uskKeygen w.msk rights w.rng).1.map (fun _ => ())
  | .refresh usk keep => (refresh w.msk usk keep w.rng).1
  | .draw _ => .ok ()

/-- **Failed operations leave the master key untouched**: whatever the state and the arguments, an
operation of the world machine that reports an error leaves the master key as it was (`refresh`: of
a key of the master key's tracing level, the only kind the API produces). -/
theorem failed_step_leaves_master_key (w : World) (op : Op) (e : Err) (h : opResult w op = .error e)
    (hlvl : ∀ usk keep, op = .refresh usk keep → usk.id.length = w.msk.ntracers) :
    (w.step op).msk = w.msk := by
  cases op with
  | edit ed =>
    simp only [opResult, World.step] at h ⊢
    split
    · rename_i s hs; rw [hs] at h; cases h
    · rfl
  | update => exact update_failed_untouched _ _ _ e h
  | rekey p =>
    simp only [opResult, World.step] at h ⊢
    split
    · rfl
    · rename_i rights hr; rw [hr] at h; exact rekey_failed_untouched _ _ _ e h
  | prune p =>
    simp only [opResult, World.step] at h ⊢
    split
    · rfl
    · rename_i rights hr; rw [hr] at h; cases h
  | keygen p =>
    simp only [opResult, World.step] at h ⊢
    split
    · rfl
    · rename_i rights hr
      rw [hr] at h
      dsimp only at h
      cases hk : (uskKeygen w.msk rights w.rng).1 with
      | ok u => rw [hk] at h; cases h
      | error e' => exact keygen_failed_untouched _ _ _ e' hk
  | refresh usk keep => exact (refresh_failed_untouched _ _ _ _ e h (hlvl usk keep rfl)).2
  | draw k => cases h

def exMsk : Msk :=
  { auth := 0, ntracers := 2, users := [], secrets := [([1], [(true, (⟨5, false⟩ : Sk))])],
    signKey := none, structure_ := Struct.empty }

/-- non-vacuity: a rekey that fails on its second right -/
example : (rekey exMsk [[1], [2]] 10).1 = .error .notPermitted := by rfl

end CC.Props.C10
