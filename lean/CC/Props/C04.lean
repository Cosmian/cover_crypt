import CC.Lemmas.Issued
import CC.Lemmas.Contig
/-! # C04 — key rotation: refreshed keys follow the master key, stale keys fall behind -/

namespace CC.Props.C04
open CC

/-- the repaired revision iterator yields exactly the secrets of the chains, whatever their lengths
(after a partial rekey they differ) -/
theorem revisions_cover (chains : RevVec) (x : Right × Sk) :
    (∃ rev ∈ revisions chains, x ∈ rev) ↔ ∃ c, (x.1, c) ∈ chains ∧ x.2 ∈ c :=
  mem_revisions chains x

/-- rekey puts a fresh secret in front of the chain of every rekeyed right -/
theorem rekeyLoop_fresh (secrets : RevMap) (rights : List Right) (n : Rng) (r : Right) (hr : r ∈ rights)
    (hall : ∀ r ∈ rights, (secrets.getLatest r).isSome) :
    ∃ act sk, (rekeyLoop secrets rights n).2.1.getLatest r = some (act, sk) ∧ n ≤ sk.tok :=
  CC.rekeyLoop_fresh secrets rights n r hr hall

/-- a key holding only secrets drawn before `n` opens no encapsulation made for secrets drawn since -/
theorem stale_cannot_open (usk : Usk) (enc : XEnc) (n : Rng)
    (hold : ∀ r c, (r, c) ∈ usk.secrets → ∀ s ∈ c, s.tok < n)
    (hnew : ∀ t ∈ enc.targets, n ≤ t.tok) : decaps usk enc = none := by
  apply (decaps_eq_none_iff usk enc).2
  rintro ⟨_, _, _, r, c, s, t, hm, hs, ht, ho⟩
  exact absurd (hnew t ht) (Nat.not_le.2 (opens_tok ho ▸ hold r c hm s hs))

/-- a chain refreshed with `keep old secrets` starts with the master key's newest secret -/
theorem refresh_keep_follows (m u c : List Sk) (h : refreshChain m u = some c) (hm : m ≠ []) :
    c.head? = m.head? :=
  (refreshChain_head m u c h).resolve_right hm

/-- closed form of the chain merge under the contiguity invariants (`CC.refreshChain_spec`) -/
theorem refresh_keep_closed_form (log : List Sk) (hnd : log.Nodup) (k i j : Nat)
    (hk : k ≤ log.length) (hj : 0 < j) (hij : i + j ≤ log.length) :
    refreshChain (log.take k) ((log.drop i).take j) =
      some (if i < k then log.take (min k (i + j)) else log.take k) :=
  refreshChain_spec log hnd k i j hk hj hij

/-- **Stale keys fall behind, over every history.** In any reachable world, after a successful
rekey, an encapsulation made under the new public key for rekeyed rights only cannot be opened by a
key all of whose secrets were drawn before the rekey. -/
theorem stale_key_after_rekey (w : World) (hw : Reachable w) (rights : List Right)
    (hok : (rekey w.msk rights w.rng).1 = .ok ()) (re : List Right) (hsub : ∀ r ∈ re, r ∈ rights)
    (n' : Rng) (s : Nat) (x : XEnc) (hen : (encaps (rekey w.msk rights w.rng).2.1.mpk re n').1 = .ok (s, x))
    (usk : Usk) (hold : ∀ r c, (r, c) ∈ usk.secrets → ∀ k ∈ c, k.tok < w.rng) : decaps usk x = none := by
  apply stale_cannot_open usk x w.rng hold
  intro t ht
  obtain ⟨r, hr, hk⟩ := (mapMExcept_mem (encaps_ok_spec hen).1).1 ht
  exact rekey_published_fresh w.msk rights w.rng (reachable_inv w hw) hok r (hsub r hr) t hk

/-- **Refreshed keys follow the master key, over every history.** In any reachable world, after a
successful refresh with either flag, the chain of every right the key keeps holds only current
master secrets of that right and starts with the newest one. -/
theorem refreshed_key_follows (w : World) (hw : Reachable w) (usk : Usk) (keep : Bool)
    (hok : (refresh w.msk usk keep w.rng).1 = .ok ()) :
    ∀ r c, (r, c) ∈ (refresh w.msk usk keep w.rng).2.2.1.secrets →
      ∃ mchain, w.msk.secrets.lookup r = some mchain ∧ (∀ k ∈ c, k ∈ mchain.map (·.2)) ∧
        c.head? = (mchain.map (·.2)).head? :=
  fun r c hm =>
    let ⟨mchain, h1, h2, h3, _⟩ := refresh_secrets_spec w.msk usk keep w.rng hok r c hm
    ⟨mchain, h1, fun _ hk => h2.subset hk, h3⟩

/-- **`keep old secrets`, over every history.** A key generated in any reachable world, then any
operations with any arguments, then a refresh of that key with `keep old secrets`: the refresh
succeeds, and every secret the key held that the master key still holds for that right is kept. -/
theorem keep_refresh_keeps_secrets (w : World) (hw : Reachable w) (p : AP) (rights : List Right)
    (hr : w.msk.structure_.uskRights p = .ok rights) (usk : Usk)
    (hk : (uskKeygen w.msk rights w.rng).1 = .ok usk) (ops : List Op) :
    let w' := ops.foldl World.step (w.step (.keygen p))
    (refresh w'.msk usk true w'.rng).1 = .ok () ∧
    ∀ r u, (r, u) ∈ usk.secrets → ∀ mc, w'.msk.secrets.lookup r = some mc →
      ∀ s ∈ u, s ∈ mc.map (·.2) → ∃ c', (r, c') ∈ (refresh w'.msk usk true w'.rng).2.2.1.secrets ∧ s ∈ c' := by
  intro w'
  have hr1 : Reachable (w.step (.keygen p)) := hw.step _
  have hi' : Issued w'.msk usk := issued_stable _ ops usk (keygen_step_issues hr hk)
  have hok := issued_refresh_ok w' (hr1.steps ops) usk hi' true
  have ht : Tracks w' usk := steps_tracks ops _ hr1 usk (keygen_tracks w hw p rights hr usk hk)
  exact ⟨hok, tracks_refresh_keeps w' (hr1.steps ops) usk ht hi'.2.2 hok⟩

/-- … hence it **still opens what it opened before the refresh**, through any secret the master
key still holds for that right (not pruned, right not deleted). -/
theorem keep_refresh_still_opens (w : World) (hw : Reachable w) (p : AP) (rights : List Right)
    (hr : w.msk.structure_.uskRights p = .ok rights) (usk : Usk)
    (hk : (uskKeygen w.msk rights w.rng).1 = .ok usk) (ops : List Op) (x : XEnc)
    (hshape : usk.auth = x.auth ∧ usk.nps = x.ntraps ∧ usk.id.length = x.ntraps)
    (r : Right) (u : List Sk) (k t : Sk) (hm : (r, u) ∈ usk.secrets) (hku : k ∈ u) (ht : t ∈ x.targets)
    (hopen : opens x.hybrid k t = true) (mc : List (Bool × Sk))
    (hl : (ops.foldl World.step (w.step (.keygen p))).msk.secrets.lookup r = some mc) (hstill : k ∈ mc.map (·.2)) :
    decaps usk x = some x.seed ∧
    decaps (refresh (ops.foldl World.step (w.step (.keygen p))).msk usk true
      (ops.foldl World.step (w.step (.keygen p))).rng).2.2.1 x = some x.seed := by
  obtain ⟨hok, hkeep⟩ := keep_refresh_keeps_secrets w hw p rights hr usk hk ops
  obtain ⟨c', hc', hkc'⟩ := hkeep r u hm mc hl k hku hstill
  refine ⟨(decaps_eq_some_iff _ _ _).2 ⟨rfl, hshape.1, hshape.2.1, hshape.2.2, r, u, k, t, hm, hku, ht, hopen⟩, ?_⟩
  have hi' := issued_stable _ ops usk (keygen_step_issues hr hk)
  obtain ⟨ha, hn, hid, _⟩ := refresh_keep_shape _ usk _ hok hi'.2.2
  refine (decaps_eq_some_iff _ _ _).2 ⟨rfl, ?_, ?_, ?_, r, c', k, t, hc', hkc', ht, hopen⟩
  · rw [ha]; exact hshape.1
  · rw [hn]; exact hshape.2.1
  · rw [hid]; exact hshape.2.2

/-- a key produced by a refresh (with either flag) tracks the master key from then on -/
theorem refreshed_key_tracks (w : World) (hw : Reachable w) (usk : Usk) (keep : Bool)
    (hok : (refresh w.msk usk keep w.rng).1 = .ok ()) (ops : List Op) :
    Tracks (ops.foldl World.step (w.step (.refresh usk keep))) (refresh w.msk usk keep w.rng).2.2.1 :=
  steps_tracks ops _ (hw.step _) _ (refresh_tracks w hw usk keep hok)

/-- non-vacuity: log [9,7,5,3]; master holds all four; the user held [5,3] -/
example : refreshChain [⟨9, false⟩, ⟨7, false⟩, ⟨5, false⟩, ⟨3, false⟩] [⟨5, false⟩, ⟨3, false⟩] =
    some [⟨9, false⟩, ⟨7, false⟩, ⟨5, false⟩, ⟨3, false⟩] := by decide

end CC.Props.C04
