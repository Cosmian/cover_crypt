import CC.Model.Dict
import CC.Lemmas.Edits
/-! # `Dict` refines the ordered association list

`Inv`: the hash map sends a key to a position exactly when the entry at that position carries that
key, and both structures have the same size. It holds of `Dict::new` and every operation keeps it;
under it no operation indexes out of bounds (no panic) and each one is the list operation
`CC.Model.Structure` uses (`ainsert`, `aerase`, `areplace`, the renaming `map`, `List.lookup`). -/

namespace CC.DictRep
variable {V : Type}

structure Inv (d : DictRep V) : Prop where
  fwd : ∀ k i, d.indices k = some i → ∃ v, d.entries[i]? = some (k, v)
  bwd : ∀ i k v, d.entries[i]? = some (k, v) → d.indices k = some i
  size : d.nIdx = d.entries.length

theorem inv_empty : (empty : DictRep V).Inv :=
  ⟨fun _ _ h => (nomatch h), fun _ _ _ h => by simp [empty] at h, rfl⟩

theorem Inv.lt {d : DictRep V} (h : d.Inv) {k : String} {i : Nat} (hi : d.indices k = some i) :
    i < d.entries.length := by
  obtain ⟨v, hv⟩ := h.fwd k i hi
  exact (List.getElem?_eq_some_iff.mp hv).1

section
variable {d : DictRep V} {k k' : String} {i : Nat}

theorem Inv.key (h : d.Inv) :
    d.indices k = some i ↔ (d.entries[i]?).map (·.1) = some k := by
  rw [Option.map_eq_some_iff]
  exact ⟨fun hi => let ⟨v, hv⟩ := h.fwd k i hi; ⟨(k, v), hv, rfl⟩, fun ⟨p, hp, e⟩ => h.bwd i k p.2 (e ▸ hp)⟩

theorem Inv.of_key
    (hk : ∀ k i, d.indices k = some i ↔ (d.entries[i]?).map (·.1) = some k)
    (hs : d.nIdx = d.entries.length) : d.Inv where
  fwd k i hi := by
    obtain ⟨p, hp, rfl⟩ := Option.map_eq_some_iff.mp ((hk k i).mp hi)
    exact ⟨p.2, hp⟩
  bwd i k v hi := (hk k i).mpr (by rw [hi]; rfl)
  size := hs

theorem Inv.nodup (h : d.Inv) : (d.entries.map (·.1)).Nodup := by
  rw [List.Nodup, List.pairwise_iff_getElem]
  intro i j hi hj hij heq
  have a := h.key.mpr (show (d.entries[i]?).map (·.1) = some _ by
    rw [← List.getElem?_map, List.getElem?_eq_getElem hi])
  have b := h.key.mpr (show (d.entries[j]?).map (·.1) = some _ by
    rw [← List.getElem?_map, List.getElem?_eq_getElem hj])
  rw [heq, b] at a
  exact absurd (Option.some.inj a) (by omega)

theorem Inv.absent (h : d.Inv) (hi : d.indices k = none) :
    d.entries.lookup k = none :=
  lookup_eq_none_iff_keys.2 fun hm => by
    obtain ⟨p, hp, rfl⟩ := List.mem_map.1 hm
    obtain ⟨j, hj⟩ := List.mem_iff_getElem?.mp hp
    rw [h.bwd j p.1 p.2 hj] at hi; cases hi

theorem Inv.present (h : d.Inv) (hi : d.indices k = some i) :
    ∃ w, d.entries[i]? = some (k, w) ∧ d.entries.lookup k = some w :=
  (h.fwd k i hi).imp fun _ hw => ⟨hw, (lookup_eq_some_iff_mem h.nodup).mpr (List.mem_of_getElem? hw)⟩

theorem Inv.inj (h : d.Inv) (hi : d.indices k = some i)
    (hi' : d.indices k' = some i) : k' = k := by
  have a := h.key.mp hi
  rw [h.key.mp hi'] at a
  exact Option.some.inj a

theorem Inv.set_value (h : d.Inv) (hi : d.indices k = some i) (v : V) :
    Inv { d with entries := d.entries.set i (k, v) } := by
  refine .of_key (fun k' j => ?_) (h.size.trans List.length_set.symm)
  rw [h.key, List.getElem?_set]
  split
  · next e => subst e; rw [if_pos (h.lt hi), h.key.mp hi]; rfl
  · rfl

/-- `remove`'s renumbering of the positions other than `i` undoes that of `List.eraseIdx` -/
theorem shift_eq_iff {i j j0 : Nat} (h : j0 ≠ i) :
    (if j0 > i then j0 - 1 else j0) = j ↔ j0 = if j < i then j else j + 1 := by
  rcases Nat.lt_or_gt_of_ne h with h | h
  · rw [if_neg (Nat.lt_asymm h)]; split <;> omega
  · rw [if_pos h]; split <;> omega

end

theorem get_eq_lookup {d : DictRep V} (h : d.Inv) (k : String) : d.get k = d.entries.lookup k := by
  unfold get
  split
  · next hi => exact (h.absent hi).symm
  · next i hi =>
    obtain ⟨w, hw, hl⟩ := h.present hi
    rw [hw, hl]; rfl

theorem containsKey_eq {d : DictRep V} (h : d.Inv) (k : String) :
    d.containsKey k = (d.entries.lookup k).isSome := by
  unfold containsKey
  cases hi : d.indices k with
  | none => rw [h.absent hi]; rfl
  | some i =>
    obtain ⟨w, _, hl⟩ := h.present hi
    rw [hl]; rfl

theorem len_eq {d : DictRep V} (h : d.Inv) : d.len = d.entries.length := h.size

/-- `remove` never panics, keeps the invariant and is `aerase` on the entries -/
theorem remove_refines {d : DictRep V} (h : d.Inv) (k : String) :
    ∃ d', d.remove k = some (d', d.entries.lookup k) ∧ d'.Inv ∧ d'.entries = aerase d.entries k := by
  unfold remove
  cases hi : d.indices k with
  | none =>
    have hl := h.absent hi
    exact ⟨d, by rw [hl], h, (aerase_of_lookup_none hl).symm⟩
  | some i =>
    obtain ⟨w, hw, hl⟩ := h.present hi
    simp only [hw, hl]
    refine ⟨_, rfl, .of_key (fun k' j => ?_) ?_, (aerase_eq_eraseIdx h.nodup hw).symm⟩
    · dsimp only
      -- position `j` of the new list is position `j` (below `i`) or `j + 1` of the old one
      have hpos : (d.entries.eraseIdx i)[j]? = d.entries[if j < i then j else j + 1]? := by
        rw [List.getElem?_eraseIdx]; split <;> rfl
      rw [hpos, ← h.key]
      by_cases hk : k' = k
      · subst hk
        have : i ≠ if j < i then j else j + 1 := by split <;> omega
        simp [hi, this]
      · rw [if_neg hk]
        cases hj : d.indices k' with
        | none => simp only [Option.map_none, reduceCtorEq]
        | some j0 =>
          rw [Option.map_some, Option.some.injEq, Option.some.injEq]
          exact shift_eq_iff fun e => hk (h.inj hi (e ▸ hj))
    · dsimp only
      rw [List.length_eraseIdx, if_pos (h.lt hi), h.size]

/-- `insert` never panics, keeps the invariant and is `ainsert` on the entries -/
theorem insert_refines {d : DictRep V} (h : d.Inv) (k : String) (v : V) :
    ∃ d', d.insert k v = some (d', d.entries.lookup k) ∧ d'.Inv ∧ d'.entries = ainsert d.entries k v := by
  unfold insert ainsert
  cases hi : d.indices k with
  | some i =>
    obtain ⟨w, hw, hl⟩ := h.present hi
    simp only [hw, hl]
    exact ⟨_, rfl, h.set_value hi v, set_eq_map h.nodup hw fun _ => (k, v)⟩
  | none =>
    rw [h.absent hi]
    refine ⟨_, rfl, .of_key (fun k' j => ?_) (by rw [List.length_append]; exact congrArg (· + 1) h.size), rfl⟩
    dsimp only
    rw [getElem?_concat]
    by_cases hk : k' = k
    · subst hk
      rw [if_pos rfl]
      split
      · next e => simp only [e, Option.map_some]
      · next e => rw [← h.key, hi]; simp only [Option.some.injEq, Ne.symm e, reduceCtorEq]
    · rw [if_neg hk, h.key]
      split
      · next e =>
        rw [e, List.getElem?_eq_none (Nat.le_refl _)]
        simp [Ne.symm hk]
      · rfl

/-- `update_key` never panics; it fails exactly when the old key is missing or the new one taken;
otherwise it keeps the invariant and renames in place (the `map` of `Dim.renameAttribute`) -/
theorem updateKey_refines {d : DictRep V} (h : d.Inv) (old new : String) :
    (d.entries.lookup old = none ∧ d.updateKey old new = some (.error .missing)) ∨
    ((d.entries.lookup old).isSome ∧ (d.entries.lookup new).isSome ∧
      d.updateKey old new = some (.error .existing)) ∨
    ((d.entries.lookup old).isSome ∧ d.entries.lookup new = none ∧
      ∃ d', d.updateKey old new = some (.ok d') ∧ d'.Inv ∧
        d'.entries = d.entries.map (fun p => if p.1 == old then (new, p.2) else p)) := by
  unfold updateKey
  cases hi : d.indices old with
  | none => exact .inl ⟨h.absent hi, rfl⟩
  | some i =>
    obtain ⟨w, hw, hl⟩ := h.present hi
    rw [hl]
    cases hn : d.indices new with
    | some j =>
      obtain ⟨w', _, hl'⟩ := h.present hn
      rw [hl']
      exact .inr (.inl ⟨rfl, rfl, rfl⟩)
    | none =>
      have hne : new ≠ old := fun e => by rw [e, hi] at hn; cases hn
      refine .inr (.inr ⟨rfl, h.absent hn, _, by simp only [hw]; rfl,
        .of_key (fun k' j => ?_) (by rw [List.length_set]; exact h.size), ?_⟩)
      · dsimp only
        by_cases e : j = i
        · subst e
          rw [List.getElem?_set_self (h.lt hi)]
          by_cases ho : k' = old
          · simp [ho, hne]
          · by_cases hn' : k' = new
            · simp only [hn', hne, ↓reduceIte, Option.map_some]
            · have : ¬ d.indices k' = some j := fun e => ho (h.inj hi e)
              simp [hn', Ne.symm hn', this]
        · rw [List.getElem?_set_ne (Ne.symm e), ← h.key]
          by_cases ho : k' = old
          · simp [ho, hi, Ne.symm e]
          · by_cases hn' : k' = new
            · simp [hn', hn, Ne.symm e]
            · rw [if_neg ho, if_neg hn']
      · exact set_eq_map h.nodup hw fun p => (new, p.2)

/-- assigning through `get_mut` is `areplace` with the modified value -/
theorem modify_refines {d : DictRep V} (h : d.Inv) (k : String) (f : V → V) :
    match d.entries.lookup k with
    | none => d.modify k f = (d, false)
    | some v => ∃ d', d.modify k f = (d', true) ∧ d'.Inv ∧ d'.entries = areplace d.entries k (f v) := by
  unfold modify
  cases hi : d.indices k with
  | none => rw [h.absent hi]
  | some i =>
    obtain ⟨w, hw, hl⟩ := h.present hi
    simp only [hw, hl]
    exact ⟨_, rfl, h.set_value hi (f w), set_eq_map h.nodup hw fun _ => (k, f w)⟩

/-- the fold of `insert`s behind `FromIterator` and the re-insertion loop -/
def insertAll (acc : Option (DictRep V)) (l : List (String × V)) : Option (DictRep V) :=
  l.foldl (fun acc p => acc.bind (fun d => (d.insert p.1 p.2).map (·.1))) acc

theorem insertAll_none (l : List (String × V)) : insertAll none l = none := by
  induction l with
  | nil => rfl
  | cons p t ih => exact ih

theorem insertAll_refines (l : List (String × V)) : ∀ (d : DictRep V), d.Inv →
    ((d.entries ++ l).map (·.1)).Nodup →
    ∃ d', insertAll (some d) l = some d' ∧ d'.Inv ∧ d'.entries = d.entries ++ l := by
  induction l with
  | nil => intro d h _; exact ⟨d, rfl, h, (List.append_nil _).symm⟩
  | cons p t ih =>
    intro d h hnd
    obtain ⟨d1, h1, hinv1, hent1⟩ := insert_refines h p.1 p.2
    -- `p`'s key is new, so this `insert` appends
    have hnot : d.entries.lookup p.1 = none := lookup_eq_none_iff_keys.mpr fun hm => by
      rw [List.map_append, List.nodup_append] at hnd
      exact hnd.2.2 p.1 hm p.1 List.mem_cons_self rfl
    replace hent1 : d1.entries = d.entries ++ [p] := by rw [hent1, ainsert, hnot]; rfl
    rw [List.append_cons, ← hent1] at hnd ⊢
    obtain ⟨d', h2, hinv2, hent2⟩ := ih d1 hinv1 hnd
    refine ⟨d', ?_, hinv2, hent2⟩
    show insertAll ((d.insert p.1 p.2).map (·.1)) t = some d'
    rw [h1]; exact h2

/-- collecting a list with distinct keys never panics and gives that list as entries -/
theorem fromList_refines (l : List (String × V)) (hnd : (l.map (·.1)).Nodup) :
    ∃ d, fromList l = some d ∧ d.Inv ∧ d.entries = l :=
  insertAll_refines l empty inv_empty hnd

theorem addAbove_eq_fromList (d : DictRep Attr) (name after : String) (a : Attr) :
    d.addAbove name a after = fromList (Dim.insertAbove d.entries name a after) := by
  unfold addAbove fromList Dim.insertAbove iter
  simp only [List.foldl_append]
  generalize List.foldl _ (some empty) _ = o
  cases o with
  | none => exact (insertAll_none _).symm
  | some nd =>
    show (nd.insert name a).bind _ = insertAll ((nd.insert name a).map (·.1)) _
    cases nd.insert name a with
    | none => exact (insertAll_none _).symm
    | some r => rfl

/-- the hierarchy arm of `Dimension::add_attribute` on the representation never panics and is
`Dim.insertAbove` on the entries, for a name the dimension does not hold yet -/
theorem addAbove_refines (d : DictRep Attr) (h : d.Inv) (name after : String) (a : Attr)
    (hnew : d.entries.lookup name = none) :
    ∃ d', d.addAbove name a after = some d' ∧ d'.Inv ∧
      d'.entries = Dim.insertAbove d.entries name a after := by
  rw [addAbove_eq_fromList]
  exact fromList_refines _ (nodup_insertAbove after a h.nodup hnew)

end CC.DictRep
