import CC.Props.C01
import CC.Props.C02
import CC.Lemmas.Sym
import CC.Lemmas.Rev
import CC.Generated.Consts
/-! # C12 — PKE and encrypted-header layers round-trip and authenticate

AES-256-GCM is idealised as in `CC.Model.Sym` (a sealed box opens only under the key, nonce and
associated data it was made with, and not once altered); the theorems are about the composition:
which key is derived from what, what is sealed with which associated data, the length guard. -/

namespace CC.Props.C12
open CC

/-- PKE round trip: whoever decapsulates the right seed gets exactly the plaintext (any length) -/
theorem pke_roundtrip (usk : Usk) (x : XEnc) (nonce : Nat) (ptx : Bytes)
    (h : decaps usk x = some x.seed) :
    pkeDecrypt usk (x, aeSeal ⟨x.seed, labelPke⟩ nonce [] ptx) = .ok (some ptx) := by
  simp only [pkeDecrypt, h, aeOpen_seal]

/-- an unauthorised key gets `not authorized`, whatever the ciphertext bytes are -/
theorem pke_unauthorized (usk : Usk) (x : XEnc) (c : Sealed) (h : decaps usk x = none) :
    pkeDecrypt usk (x, c) = .ok none := by
  simp only [pkeDecrypt, h]

/-- a truncated or altered ciphertext is an error for every key that decapsulates (the length guard
covers truncation below the nonce length) -/
theorem pke_tampered_rejected (usk : Usk) (x : XEnc) (c : Sealed) (seed : Nat)
    (h : decaps usk x = some seed) (ht : c.tamper ≠ .intact) :
    pkeDecrypt usk (x, c) = .error .crypto := by
  simp only [pkeDecrypt, h, aeOpen_refuses fun hc => ht hc.1]

/-- a ciphertext sealed for another encapsulation's seed does not open -/
theorem pke_wrong_seed_rejected (usk : Usk) (x : XEnc) (c : Sealed) (seed : Nat)
    (h : decaps usk x = some seed) (hk : c.key ≠ ⟨seed, labelPke⟩) :
    pkeDecrypt usk (x, c) = .error .crypto := by
  simp only [pkeDecrypt, h, aeOpen_refuses fun hc => hk hc.2.1]

/-- header round trip: exact metadata (absent, empty or not) and the secret generation returned,
whenever the authentication data has the same content (absent = empty) -/
theorem header_roundtrip (usk : Usk) (x : XEnc) (nonce : Nat) (md ad ad' : Option Bytes)
    (h : decaps usk x = some x.seed) (had : adBytes ad' = adBytes ad) :
    hdrDecrypt usk ⟨x, md.map (aeSeal ⟨x.seed, labelHdrKey⟩ nonce (adBytes ad))⟩ ad' =
      .ok (some (⟨x.seed, labelHdrSecret⟩, md)) := by
  cases md with
  | none => simp only [hdrDecrypt, h, Option.map_none]
  | some m => simp only [hdrDecrypt, h, Option.map_some, had, aeOpen_seal]

theorem header_unauthorized (usk : Usk) (hd : Header) (ad : Option Bytes) (h : decaps usk hd.enc = none) :
    hdrDecrypt usk hd ad = .ok none := by
  simp only [hdrDecrypt, h]

/-- the part of C12's binding of the authentication data that holds: authentication data with a different content is rejected **when metadata is
present** -/
theorem header_ad_mismatch_rejected_partial (usk : Usk) (x : XEnc) (nonce : Nat) (m : Bytes) (ad ad' : Option Bytes)
    (h : decaps usk x = some x.seed) (had : adBytes ad' ≠ adBytes ad) :
    hdrDecrypt usk ⟨x, some (aeSeal ⟨x.seed, labelHdrKey⟩ nonce (adBytes ad) m)⟩ ad' = .error .crypto := by
  have : aeOpen ⟨x.seed, labelHdrKey⟩ (adBytes ad') (aeSeal ⟨x.seed, labelHdrKey⟩ nonce (adBytes ad) m) =
      .error .crypto := aeOpen_refuses fun hc => had hc.2.2.symm
  simp only [hdrDecrypt, h, this]

/-- The full statement is false of the code and of the model (known finding D12): with no
metadata nothing is sealed, so the authentication data is not bound. Concrete witness. -/
theorem header_ad_unbound_without_metadata (usk : Usk) (x : XEnc) (h : decaps usk x = some x.seed) :
    hdrDecrypt usk ⟨x, none⟩ (some [1, 2, 3]) = .ok (some (⟨x.seed, labelHdrSecret⟩, none)) := by
  simp only [hdrDecrypt, h]

theorem header_tampered_rejected (usk : Usk) (x : XEnc) (c : Sealed) (seed : Nat) (ad : Option Bytes)
    (h : decaps usk x = some seed) (ht : c.tamper ≠ .intact) :
    hdrDecrypt usk ⟨x, some c⟩ ad = .error .crypto := by
  simp only [hdrDecrypt, h, aeOpen_refuses fun hc => ht hc.1]

/-- the derivation labels *read from the source* (`CC.Generated.Consts`, regenerated on every run)
are pairwise distinct -/
theorem labels_distinct : CC.Generated.labelsAvailable = true →
    CC.Generated.LABEL_HEADER_METADATA_KEY ≠ CC.Generated.LABEL_HEADER_SECRET ∧
    CC.Generated.LABEL_HEADER_METADATA_KEY ≠ CC.Generated.LABEL_PKE_KEY ∧
    CC.Generated.LABEL_HEADER_SECRET ≠ CC.Generated.LABEL_PKE_KEY := by decide

/-- the model uses exactly the labels of the source -/
theorem labels_match_source : CC.Generated.labelsAvailable = true →
    labelPke = CC.Generated.LABEL_PKE_KEY ∧ labelHdrKey = CC.Generated.LABEL_HEADER_METADATA_KEY ∧
    labelHdrSecret = CC.Generated.LABEL_HEADER_SECRET := by decide

/-! ## end to end, over every history

Composed with the reachable-world theorems of C01 / C02: in any world reachable from `setup`, a key
just generated for policy `u` and a ciphertext / header just made under the current public key for
policy `e`. -/

/-- an authorised key decrypts a PKE ciphertext to the exact plaintext -/
theorem pke_authorized_reachable (w : World) (hw : Reachable w) (u e : AP)
    (hu : Spec.policyWf w.msk.structure_ u = true) (he : Spec.policyWf w.msk.structure_ e = true)
    (ru re : List Right) (hru : w.msk.structure_.uskRights u = .ok ru) (hre : w.msk.mpk.structure_.encRights e = .ok re)
    (n n' : Rng) (usk : Usk) (ptx : Bytes) (x : XEnc) (c : Sealed)
    (hk : (uskKeygen w.msk ru n).1 = .ok usk) (hen : (pkeEncrypt w.msk.mpk re ptx n').1 = .ok (x, c))
    (hcov : Spec.covers w.msk.structure_ u e = true) : pkeDecrypt usk (x, c) = .ok (some ptx) := by
  obtain ⟨hen', rfl, -⟩ := pkeEncrypt_ok hen
  exact pke_roundtrip usk x _ ptx
    (C01.authorized_opens_reachable w hw u e hu he ru re hru hre n n' usk _ x hk hen' hcov)

/-- an unauthorised key gets `not authorized`, never data -/
theorem pke_unauthorized_reachable (w : World) (hw : Reachable w) (u e : AP)
    (hu : Spec.policyWf w.msk.structure_ u = true) (he : Spec.policyWf w.msk.structure_ e = true)
    (ru re : List Right) (hru : w.msk.structure_.uskRights u = .ok ru) (hre : w.msk.mpk.structure_.encRights e = .ok re)
    (n n' : Rng) (usk : Usk) (ptx : Bytes) (x : XEnc) (c : Sealed)
    (hk : (uskKeygen w.msk ru n).1 = .ok usk) (hen : (pkeEncrypt w.msk.mpk re ptx n').1 = .ok (x, c))
    (hcov : Spec.covers w.msk.structure_ u e = false) : pkeDecrypt usk (x, c) = .ok none :=
  pke_unauthorized usk x c
    (C02.unauthorized_gets_nothing_reachable w hw u e hu he ru re hru hre n n' usk _ x hk (pkeEncrypt_ok hen).1 hcov)

/-- an authorised key opens a header to the exact metadata and to the secret generation returned,
given authentication data with the same content -/
theorem header_authorized_reachable (w : World) (hw : Reachable w) (u e : AP)
    (hu : Spec.policyWf w.msk.structure_ u = true) (he : Spec.policyWf w.msk.structure_ e = true)
    (ru re : List Right) (hru : w.msk.structure_.uskRights u = .ok ru) (hre : w.msk.mpk.structure_.encRights e = .ok re)
    (n n' : Rng) (usk : Usk) (md ad ad' : Option Bytes) (sec : DKey) (hd : Header)
    (hk : (uskKeygen w.msk ru n).1 = .ok usk) (hg : (hdrGenerate w.msk.mpk re md ad n').1 = .ok (sec, hd))
    (hcov : Spec.covers w.msk.structure_ u e = true) (had : adBytes ad' = adBytes ad) :
    hdrDecrypt usk hd ad' = .ok (some (sec, md)) := by
  obtain ⟨hen', rfl, hm, -⟩ := hdrGenerate_ok hg
  obtain ⟨x, m⟩ := hd
  simp only at hm hen'
  subst hm
  exact header_roundtrip usk x _ md ad ad'
    (C01.authorized_opens_reachable w hw u e hu he ru re hru hre n n' usk _ x hk hen' hcov) had

/-- an unauthorised key learns nothing from a header -/
theorem header_unauthorized_reachable (w : World) (hw : Reachable w) (u e : AP)
    (hu : Spec.policyWf w.msk.structure_ u = true) (he : Spec.policyWf w.msk.structure_ e = true)
    (ru re : List Right) (hru : w.msk.structure_.uskRights u = .ok ru) (hre : w.msk.mpk.structure_.encRights e = .ok re)
    (n n' : Rng) (usk : Usk) (md ad ad' : Option Bytes) (sec : DKey) (hd : Header)
    (hk : (uskKeygen w.msk ru n).1 = .ok usk) (hg : (hdrGenerate w.msk.mpk re md ad n').1 = .ok (sec, hd))
    (hcov : Spec.covers w.msk.structure_ u e = false) : hdrDecrypt usk hd ad' = .ok none :=
  header_unauthorized usk hd ad'
    (C02.unauthorized_gets_nothing_reachable w hw u e hu he ru re hru hre n n' usk _ _ hk (hdrGenerate_ok hg).1 hcov)

end CC.Props.C12
