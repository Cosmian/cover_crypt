import CC.Lemmas.Disabled
import CC.Lemmas.Rename
import CC.Model.Sym
import CC.Spec.Cover
/-! # Witnesses: the hypotheses of the reachable-world theorems are met by concrete histories

These are **tests** (`#guard`, evaluated by the Lean interpreter when the file is built — a failing
guard fails the build), not theorems: each runs a concrete operation history from `setup` through
the model's own `World.step` and checks that the hypotheses of one of the "over every history"
theorems hold there and that its conclusion is the non-trivial outcome. They guard against a
theorem whose premises no reachable state meets. (Kernel evaluation by `decide` is not available
for these: `Right.fromPoint` sorts with the well-founded `mergeSort`.) -/
namespace CC.Props.NonVacuity
open CC

instance (s : Struct) (i : Nat) : Decidable (s.IdDisabled i) := by
  unfold Struct.IdDisabled; exact inferInstance

def pol (s : String) : AP := match parse s with | .ok p => p | .error _ => .broadcast

/-- a hierarchy S: L < T (T hybridized) and an unordered D: A, B; master key updated -/
def base : List Op :=
  [.edit (.addDim "S" true), .edit (.addAttr "S" "L" false none), .edit (.addAttr "S" "T" true (some "L")),
   .edit (.addDim "D" false), .edit (.addAttr "D" "A" false none), .edit (.addAttr "D" "B" false none), .update]

def run (ops : List Op) : World := ops.foldl World.step (World.init 0 defaultTracers)

def keygenOf (w : World) (p : String) : Option Usk :=
  match w.msk.structure_.uskRights (pol p) with
  | .ok rs => (uskKeygen w.msk rs w.rng).1.toOption
  | .error _ => none

def encapsOf (w : World) (p : String) (n : Rng) : Option (Nat × XEnc) :=
  match w.msk.mpk.structure_.encRights (pol p) with
  | .ok rs => (encaps w.msk.mpk rs n).1.toOption
  | .error _ => none

/-! C01 / C02: well-formed policies, covering and not covering, in a reachable world -/
#guard Spec.policyWf (run base).msk.structure_ (pol "S::T && D::A")
#guard Spec.policyWf (run base).msk.structure_ (pol "S::L && D::A || D::B")
#guard Spec.covers (run base).msk.structure_ (pol "S::T && D::A") (pol "S::L && D::A") == true
#guard Spec.covers (run base).msk.structure_ (pol "S::L && D::A") (pol "S::T && D::A") == false
#guard (do let u ← keygenOf (run base) "S::T && D::A"; let (s, x) ← encapsOf (run base) "S::L && D::A" 1000
           pure (decaps u x == some s)) == some true
#guard (do let u ← keygenOf (run base) "S::L && D::A"; let (_, x) ← encapsOf (run base) "S::T && D::A" 1000
           pure (decaps u x == none)) == some true

/-! C06: disable D::A, update succeeds, later operations; encapsulation for a right with the
disabled identifier fails while others succeed -/
def disabled : World := run (base ++ [.edit (.disable "D" "A")])
#guard decide (disabled.msk.structure_.IdDisabled 2)
#guard (updateMsk disabled.msk disabled.msk.structure_.omega disabled.rng).1 matches .ok ()
def later : World :=
  [Op.rekey (pol "D::A"), .edit (.addAttr "D" "C" false none), .update, .prune (pol "D::A")].foldl World.step (disabled.step .update)
#guard (encaps later.msk.mpk [Right.fromPoint [2]] 5000).1 matches .error .keyError
#guard (encaps later.msk.mpk [Right.fromPoint [0, 2]] 5000).1 matches .error .keyError
#guard (encaps later.msk.mpk [Right.fromPoint [3]] 5000).1 matches .ok _

/-! C04: a rekey succeeds; a key issued before it holds only older tokens; the encapsulation made
afterwards for a rekeyed right exists -/
def w4 : World := run base
def rekeyOk (w : World) (p : String) : Bool :=
  match w.msk.structure_.uskRights (pol p) with
  | .ok rs => ((rekey w.msk rs w.rng).1 matches .ok ())
  | .error _ => false
#guard rekeyOk w4 "D::A"
#guard (do let u ← keygenOf w4 "D::A"
           pure (u.secrets.all (fun c => c.2.all (fun k => decide (k.tok < w4.rng + 100))))) == some true
-- stale key, refreshed key
#guard (do
  let u ← keygenOf w4 "D::A"
  let w' := (w4.step (.keygen (pol "D::A"))).step (.rekey (pol "D::A"))
  let (s, x) ← encapsOf w' "D::A" 9000
  let r := refresh w'.msk u true w'.rng
  pure (decaps u x == none && r.1 matches .ok () && decaps r.2.2.1 x == some s)) == some true

/-! C05: after rekey + prune, a refreshed key (either flag) does not open what was made under the
pruned secret, and still opens the rest -/
#guard (do
  let u ← keygenOf w4 "D::A"
  let w1 := w4.step (.keygen (pol "D::A"))
  let (sOld, xOld) ← encapsOf w1 "D::A" 9000
  let w2 := (w1.step (.rekey (pol "D::A"))).step (.prune (pol "D::A"))
  let (sNew, xNew) ← encapsOf w2 "D::A" 9100
  let rk := refresh w2.msk u true w2.rng
  let rn := refresh w2.msk u false w2.rng
  pure (decaps u xOld == some sOld && rk.1 matches .ok () && rn.1 matches .ok () &&
        decaps rk.2.2.1 xOld == none && decaps rn.2.2.1 xOld == none &&
        decaps rk.2.2.1 xNew == some sNew && decaps rn.2.2.1 xNew == some sNew)) == some true

/-! C09: an issued key stays refreshable after rekeys, prunes, deletions, updates -/
#guard (do
  let u ← keygenOf w4 "S::T && D::A"
  let w1 := w4.step (.keygen (pol "S::T && D::A"))
  let w2 := [Op.rekey (pol "D::A"), .prune (pol "D::A"), .edit (.delAttr "D" "A"), .update, .edit (.delDim "S"), .update].foldl World.step w1
  pure ((refresh w2.msk u true w2.rng).1 matches .ok () && (refresh w2.msk u false w2.rng).1 matches .ok ())) == some true

/-! C03: identifiers after delete + add are fresh -/
#guard ((run (base ++ [.edit (.delAttr "D" "B"), .edit (.addAttr "D" "E" false none)])).msk.structure_.dims.lookup "D").map
  (fun d => d.attrs.map (fun a => a.2.id)) == some [2, 4]

/-! C04 (keep): generate, encapsulate, rekey twice (partially), prune another right, edit and
update; then refresh with keep: the old encapsulation still opens, and the hypotheses of
`keep_refresh_still_opens` (the opening secret is still in the master key) hold -/
#guard (do
  let u ← keygenOf w4 "S::T && D::A"
  let w1 := w4.step (.keygen (pol "S::T && D::A"))
  let (sOld, xOld) ← encapsOf w1 "D::A" 9000
  let w2 := [Op.rekey (pol "D::A"), .rekey (pol "S::T && D::A"), .prune (pol "D::B"), .edit (.addAttr "D" "C" true none), .update].foldl World.step w1
  let r := refresh w2.msk u true w2.rng
  let stillHeld := u.secrets.any (fun (rt, ch) => ch.any (fun k => xOld.targets.any (fun t => opens xOld.hybrid k t) &&
    ((w2.msk.secrets.lookup rt).map (fun mc => (mc.map (·.2)).contains k)).getD false))
  pure (decaps u xOld == some sOld && r.1 matches .ok () && stillHeld && decaps r.2.2.1 xOld == some sOld)) == some true

/-! C11: after edits, updates and rekeys the newest secret of a right with a hybridized attribute
is hybridized, of a right without one classic -/
#guard (let w := [Op.rekey (pol "S::T"), .edit (.disable "S" "T"), .update, .rekey (pol "D::A")].foldl World.step w4
  ((w.msk.secrets.lookup (Right.fromPoint [1])).bind List.head?).map (·.2.hyb) == some true &&
  ((w.msk.secrets.lookup (Right.fromPoint [2])).bind List.head?).map (·.2.hyb) == some false &&
  ((w.msk.secrets.lookup (Right.fromPoint [1, 2])).bind List.head?).map (·.2.hyb) == some true)

/-! C03 (rename): a key generated before renaming D::A to D::Z opens an encapsulation made afterwards
for D::Z, and the cover relation with the new names says so -/
#guard (do
  let u ← keygenOf w4 "S::T && D::A"
  let w1 := [Op.keygen (pol "S::T && D::A"), .edit (.rename "D" "A" "Z"), .update].foldl World.step w4
  let (s, x) ← encapsOf w1 "S::L && D::Z" 9000
  pure (decaps u x == some s &&
    Spec.coversClause w1.msk.structure_ ([⟨"S", "T"⟩, ⟨"D", "A"⟩].map (renQA "D" "A" "Z")) ([⟨"S", "L"⟩, ⟨"D", "A"⟩].map (renQA "D" "A" "Z")))) == some true

/-! C17: two key generations in a row hand out different identifiers, both registered afterwards -/
#guard (do
  let u1 ← keygenOf w4 "D::A"
  let w1 := w4.step (.keygen (pol "D::A"))
  let u2 ← keygenOf w1 "D::A"
  let w2 := w1.step (.keygen (pol "D::A"))
  pure (u1.id != u2.id && w2.msk.users.contains u1.id && w2.msk.users.contains u2.id && !w4.msk.users.contains u1.id)) == some true

/-! C18: re-encapsulation after a rekey; a key for another right does not open the result, a
refreshed authorised key does -/
#guard (do
  let ua ← keygenOf w4 "D::A"
  let ub ← keygenOf (w4.step (.keygen (pol "D::A"))) "D::B"
  let w1 := [Op.keygen (pol "D::A"), .keygen (pol "D::B")].foldl World.step w4
  let (_, x) ← encapsOf w1 "D::A" 9000
  let w2 := w1.step (.rekey (pol "D::A"))
  let r := recaps w2.msk w2.msk.mpk x 9500
  let (s', x') ← r.1.toOption
  let ra := refresh w2.msk ua false w2.rng
  pure (decaps ub x' == none && decaps ra.2.2.1 x' == some s')) == some true

end CC.Props.NonVacuity

/-! Reachable worlds at a higher tracing level (4 tracers): the hypotheses of the reachable-world
theorems are met there as well, identifiers have 4 markers, encapsulations 4 traps, and an
authorised key opens. -/
namespace CC.Props.NonVacuityLevels
open CC CC.Props.NonVacuity

def run4 (ops : List Op) : World := ops.foldl World.step (World.init 0 4)

#guard (run4 base).msk.ntracers == 4
#guard ((keygenOf (run4 base) "S::T && D::A").map (fun u => (u.id.length, u.nps))) == some (4, 4)
#guard ((encapsOf (run4 base) "S::L && D::A" 1000).map (fun p => p.2.ntraps)) == some 4
#guard (match keygenOf (run4 base) "S::T && D::A", encapsOf (run4 base) "S::L && D::A" 1000 with
  | some u, some (s, x) => decaps u x == some s
  | _, _ => false)
#guard (match keygenOf (run4 base) "S::L && D::B", encapsOf (run4 base) "S::T && D::A" 1000 with
  | some u, some (_, x) => decaps u x == none
  | _, _ => false)

end CC.Props.NonVacuityLevels

/-! C16 `rekey_never_republishes`: hypotheses met in a reachable world (a published value, then
operations, then a rekey of rights the master key holds) -/
namespace CC.Props.NonVacuityRekey
open CC CC.Props.NonVacuity
#guard !(run base).msk.mpk.keys.isEmpty
#guard (match (run (base ++ [.keygen (pol "D::A"), .rekey (pol "S::T")])).msk.structure_.uskRights (pol "D::A") with
  | .ok rs => rs.all (fun r => ((run (base ++ [.keygen (pol "D::A"), .rekey (pol "S::T")])).msk.secrets.getLatest r).isSome) && !rs.isEmpty
  | .error _ => false)
end CC.Props.NonVacuityRekey

/-! C16 `replaced_value_never_returns`: a published value, then a rekey after which the newest
secret of that right is another one (the hypothesis `HeadNe`, evaluated) -/
namespace CC.Props.NonVacuityReplaced
open CC CC.Props.NonVacuity
def w0 := run base
def firstPub : Option (Right × Sk) := w0.msk.mpk.keys.head?
#guard firstPub.isSome
#guard (match firstPub with
  | some (r0, pk0) =>
    (match ((run (base ++ [.rekey .broadcast])).msk.secrets.lookup r0).bind List.head? with
     | some h0 => h0.2.tok != pk0.tok
     | none => false)
  | none => false)
end CC.Props.NonVacuityReplaced
