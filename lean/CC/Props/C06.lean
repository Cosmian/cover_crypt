import CC.Lemmas.Disabled
import CC.Lemmas.Contig
/-! # C06 — disabled attributes can never be encrypted to again, but stay decryptable -/

namespace CC.Props.C06
open CC

/-- `rekey` carries the activation flag of the newest secret over -/
theorem rekey_keeps_flag (secrets : RevMap) (rights : List Right) (n : Rng) (k : Right) :
    ((rekeyLoop secrets rights n).2.1.getLatest k).map (·.1) = (secrets.getLatest k).map (·.1) := by
  have := congrArg (Option.map Prod.fst) (rekeyLoop_latest secrets rights n k)
  rw [Option.map_map, Option.map_map] at this
  exact this

/-- `prune` does not touch the newest secret of any right -/
theorem prune_keeps_flag (msk : Msk) (rights : List Right) (k : Right) :
    (prune msk rights).secrets.getLatest k = msk.secrets.getLatest k :=
  prune_latest msk rights k

/-- the public key publishes a right only if its newest secret is activated -/
theorem mpk_only_activated (msk : Msk) (r : Right) (pk : Sk) (h : (r, pk) ∈ msk.mpk.keys) :
    ∃ chain, (r, chain) ∈ msk.secrets ∧ chain.head? = some (true, pk) :=
  mem_mpk_keys.1 h

/-- a deactivated right has no entry in any public key derived from the master key -/
theorem deactivated_unpublished (msk : Msk) (r : Right) (sk : Sk)
    (hwf : (msk.secrets.map (·.1)).Nodup) (h : msk.secrets.getLatest r = some (false, sk)) :
    msk.mpk.keys.lookup r = none := by
  cases hl : msk.mpk.keys.lookup r with
  | none => rfl
  | some pk => cases h.symm.trans ((mpk_lookup msk hwf r pk).1 hl)

/-- encapsulation fails as soon as one targeted right has no published key -/
theorem encaps_needs_key (mpk : Mpk) (targets : List Right) (n : Rng) (r : Right) (hr : r ∈ targets)
    (h : mpk.keys.lookup r = none) : (encaps mpk targets n).1 = .error .keyError := by
  have : mapMExcept mpk.keyOf targets = .error .keyError := by
    induction targets with
    | nil => cases hr
    | cons x xs ih =>
      rw [mapMExcept, Mpk.keyOf]
      cases hx : mpk.keys.lookup x with
      | none => rfl
      | some k => rw [ih ((List.mem_cons.1 hr).resolve_left fun e => nomatch (e ▸ h).symm.trans hx)]
  unfold encaps Mpk.selectSubkeys
  rw [this]

/-- `update_msk` sets the flag of an existing right from the structure: decrypt-only ⇒ deactivated -/
theorem update_sets_flag (secrets : RevMap) (r : Right) (hyb ro : Bool) (n : Rng) (act : Bool) (sk : Sk)
    (h : secrets.getLatest r = some (act, sk)) :
    (updateLoop secrets [(r, hyb, ro)] n).1.toOption.bind (fun s => (s.getLatest r).map (·.1)) = some (!ro) := by
  have : (updateLoop secrets [(r, hyb, ro)] n).1 =
      .ok (secrets.setLatest r (!ro, if hyb = true then sk else sk.dropHyb)) := by
    simp only [updateLoop, h]
  rw [this]
  show ((secrets.setLatest r _).getLatest r).map (·.1) = some (!ro)
  rw [RevMap.getLatest_setLatest, if_pos (beq_self_eq_true r), h]
  rfl

theorem quiet_unpublished (msk : Msk) (hwf : (msk.secrets.map (·.1)).Nodup) {i : Nat} (hq : msk.Quiet i)
    (ids : List Nat) (hi : i ∈ ids) : msk.mpk.keys.lookup (Right.fromPoint ids) = none := by
  cases hl : msk.mpk.keys.lookup (Right.fromPoint ids) with
  | none => rfl
  | some pk => cases hq ids hi _ ((mpk_lookup msk hwf _ pk).1 hl)

/-- **C06 over every history.** In any reachable world in which the identifier `i` is disabled,
once `update_msk` succeeds, then after any further operations with any arguments encapsulation under
the then-current public key fails for every target set containing a right that involves `i`: no
operation re-enables it. -/
theorem disabled_never_encryptable (w : World) (hr : Reachable w) (i : Nat)
    (hd : w.msk.structure_.IdDisabled i)
    (hu : (updateMsk w.msk w.msk.structure_.omega w.rng).1 = .ok ())
    (ops : List Op) (ids : List Nat) (hi : i ∈ ids) (targets : List Right)
    (ht : Right.fromPoint ids ∈ targets) (n : Rng) :
    (encaps (ops.foldl World.step (w.step .update)).msk.mpk targets n).1 = .error .keyError := by
  have hoff0 : (w.step .update).Off i :=
    ⟨(updateMsk_structure w.msk _ w.rng).symm ▸ hd, (updateMsk_quiet_or w.msk w.rng hd).elim (fun e => by rw [e] at hu; cases hu) id⟩
  have hoff := World.foldl_induction (P := fun w => w.Off i) (fun _ op h => h.step op) hoff0 ops
  have hinv := reachable_inv _ ((hr.step .update).steps ops)
  exact encaps_needs_key _ targets n _ ht (quiet_unpublished _ hinv.keys hoff.2 ids hi)

/-- disabling an attribute in a reachable world makes its identifier disabled -/
theorem disable_then_update (w : World) (hr : Reachable w) (dn nm : String) (s' : Struct)
    (h : w.msk.structure_.disableAttribute dn nm = .ok s') :
    ∃ d a, w.msk.structure_.dims.lookup dn = some d ∧ d.attrs.lookup nm = some a ∧
      (w.step (.edit (.disable dn nm))).msk.structure_.IdDisabled a.id := by
  have hS := reachable_struct_wf w hr
  obtain ⟨d, a, h1, h2, h3⟩ := Struct.disable_makes_disabled hS.1 hS.2 h
  refine ⟨d, a, h1, h2, ?_⟩
  simp only [World.step, Struct.apply, h]
  exact h3

/-- **… but stay decryptable.** A successful `update_msk` changes no secret of a right the structure
still defines, only the activation flag of the newest one: keys keep opening what they opened (with
C04 `keep_refresh_still_opens`) and stay refreshable (C09). -/
theorem update_keeps_defined_rights (w : World) (hw : Reachable w) (k : Right)
    (c : List (Bool × Sk)) (hl : w.msk.secrets.lookup k = some c)
    (hsurv : (w.msk.structure_.omega.lookup k).isSome = true)
    (hok : (updateMsk w.msk w.msk.structure_.omega w.rng).1 = .ok ()) :
    ∃ c', (w.step .update).msk.secrets.lookup k = some c' ∧ c'.map (·.2) = c.map (·.2) := by
  rcases update_keeps_secrets w hw k c hl with hnone | h
  · -- a successful update drops a right only if the structure does not define it
    rcases update_chain w k with e | ⟨_, hs⟩
    · rw [e] at hok; cases hok
    · rw [hnone] at hs
      generalize w.msk.secrets.lookup k = o at hs
      cases hs with
      | dropped _ h0 => rw [h0] at hsurv; cases hsurv
  · exact h

end CC.Props.C06
