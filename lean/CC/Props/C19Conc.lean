import CC.Model.Conc
import CC.Lemmas.Assoc
/-! # C19 / C16 — one generator shared by many threads: what the lock discipline buys, for every schedule

Model: `CC.Model.Conc` (threads × lock events × the generator's state, a draw being a
read‑modify‑write). For any number of threads whose sections follow the discipline
`(acq (load store)* rel)*`, any draws and any schedule, the invariant `Inv` holds (`run_inv`); from it:
mutual exclusion on the generator's state, blocks of tokens that never overlap and are consecutive
(no update lost: what some serial execution of the same sections hands out), no deadlock, every call
returns. `snapshot_breaks` and `unlocked_breaks` are the converse witnesses. The tie to the code: the
`acq / rel` structure of every API function and the places that construct or duplicate a generator
are regenerated from the source (`CC.Generated.lockTable`, `rngSites`). -/

namespace CC.Conc

def phase (s : State) (i : Nat) (th : Thread) : Phase :=
  match th.reg with
  | some _ => .loaded
  | none => if s.holder = some i then .held else .out

structure Inv (n0 : Nat) (s : State) : Prop where
  disc : ∀ i th, s.threads[i]? = some th → disc (phase s i th) th.evs = true
  reg : ∀ i th a, s.threads[i]? = some th → th.reg = some a → s.holder = some i ∧ a = s.rng
  holder : ∀ i, s.holder = some i → i < s.threads.length
  contig : Contig n0 s.log
  top : blocksEnd n0 s.log = s.rng

theorem disc_draws (ks : List Nat) (rest : List Ev) :
    disc .held (ks.flatMap (fun k => [.load, .store k]) ++ rest) = disc .held rest := by
  induction ks with
  | nil => rfl
  -- `disc .held (.load :: .store k :: r)` computes to `disc .held r`
  | cons k ks ih => exact ih

theorem disc_section (ks : List Nat) (rest : List Ev) :
    disc .out (section_ ks ++ rest) = disc .out rest := by
  simp only [section_, List.append_assoc]
  exact disc_draws ks (.rel :: rest)

theorem threadOf_disc (sections : List (List Nat)) : disc .out (threadOf sections) = true := by
  induction sections with
  | nil => rfl
  | cons ks rest ih => exact (disc_section ks (threadOf rest)).trans ih

theorem init_inv (n0 : Nat) (threads : List (List Ev)) (h : ∀ t ∈ threads, disc .out t = true) :
    Inv n0 (init n0 threads) := by
  refine ⟨?_, ?_, ?_, trivial, rfl⟩
  · intro i th hi
    simp only [init, List.getElem?_map, Option.map_eq_some_iff] at hi
    obtain ⟨e, he, rfl⟩ := hi
    simp only [phase, init]
    simpa only [reduceCtorEq, ↓reduceIte] using h e (List.mem_of_getElem? he)
  · intro i th a hi hr
    simp only [init, List.getElem?_map, Option.map_eq_some_iff] at hi
    obtain ⟨e, _, rfl⟩ := hi
    cases hr
  · intro i hi; cases hi

/-- what the discipline says about the thread that moves -/
theorem head_phase {s : State} {i : Nat} {e : Ev} {rest : List Ev} {reg : Option Nat}
    (hd : disc (phase s i ⟨e :: rest, reg⟩) (e :: rest) = true) :
    (e = .acq ∧ reg = none ∧ s.holder ≠ some i ∧ disc .held rest = true) ∨
    (e = .rel ∧ reg = none ∧ s.holder = some i ∧ disc .out rest = true) ∨
    (e = .load ∧ reg = none ∧ s.holder = some i ∧ disc .loaded rest = true) ∨
    (∃ k a, e = .store k ∧ reg = some a ∧ disc .held rest = true) := by
  unfold phase at hd
  cases reg with
  | some a =>
    cases e <;> simp only [disc, Bool.false_eq_true] at hd
    rename_i k
    exact Or.inr (Or.inr (Or.inr ⟨k, a, rfl, rfl, hd⟩))
  | none =>
    by_cases hh : s.holder = some i
    · simp only [hh, if_true] at hd
      cases e <;> simp only [disc, Bool.false_eq_true] at hd
      · exact Or.inr (Or.inl ⟨rfl, rfl, hh, hd⟩)
      · exact Or.inr (Or.inr (Or.inl ⟨rfl, rfl, hh, hd⟩))
    · simp only [hh, if_false] at hd
      cases e <;> simp only [disc, Bool.false_eq_true] at hd
      exact Or.inl ⟨rfl, rfl, hh, hd⟩

/-- frame rule: thread `i` is replaced by `x`, the mutex moves only to or from `i`, and the generator
moves only while `i` holds the mutex -/
theorem inv_set {n0 : Nat} {s : State} (hinv : Inv n0 s) {i : Nat} (hlt : i < s.threads.length) {x : Thread}
    {h' : Option Nat} {rng' : Nat} {log' : List Entry}
    (hoth : ∀ j, j ≠ i → (h' = some j ↔ s.holder = some j))
    (hrng : rng' = s.rng ∨ s.holder = some i)
    (hx : disc (phase ⟨h', rng', s.threads.set i x, log'⟩ i x) x.evs = true)
    (hxr : ∀ a, x.reg = some a → h' = some i ∧ a = rng')
    (hc : Contig n0 log') (ht : blocksEnd n0 log' = rng') :
    Inv n0 ⟨h', rng', s.threads.set i x, log'⟩ where
  disc j t hj := by
    by_cases hji : j = i
    · subst hji; rw [List.getElem?_set_self hlt] at hj; cases hj; exact hx
    · rw [List.getElem?_set_ne (Ne.symm hji)] at hj
      simpa only [phase, hoth j hji] using hinv.disc j t hj
  reg j t a hj ha := by
    by_cases hji : j = i
    · subst hji; rw [List.getElem?_set_self hlt] at hj; cases hj; exact hxr a ha
    · rw [List.getElem?_set_ne (Ne.symm hji)] at hj
      obtain ⟨h1, h2⟩ := hinv.reg j t a hj ha
      refine ⟨(hoth j hji).2 h1, ?_⟩
      rcases hrng with h | h
      · exact h2.trans h.symm
      · exact absurd (Option.some.inj (h1.symm.trans h)) hji
  holder j hj := by
    rw [List.length_set]
    by_cases hji : j = i
    · exact hji ▸ hlt
    · exact hinv.holder j ((hoth j hji).1 hj)
  contig := hc
  top := ht

theorem step_inv (n0 : Nat) (s s' : State) (i : Nat) (hinv : Inv n0 s) (hs : step s i = some s') :
    Inv n0 s' := by
  unfold step at hs
  cases hth : s.threads[i]? with
  | none => simp only [hth, reduceCtorEq] at hs
  | some th =>
    have hlt : i < s.threads.length := (List.getElem?_eq_some_iff.1 hth).1
    obtain ⟨_ | ⟨e, rest⟩, reg⟩ := th
    · simp only [hth, reduceCtorEq] at hs
    rcases head_phase (hinv.disc i _ hth) with
      ⟨rfl, rfl, hne, hr⟩ | ⟨rfl, rfl, hh, hr⟩ | ⟨rfl, rfl, hh, hr⟩ | ⟨k, a, rfl, rfl, hr⟩
    all_goals simp only [hth] at hs
    · split at hs <;> cases hs
      rename_i hnone
      exact inv_set hinv hlt (fun j hji => by simp only [hnone, Option.some.injEq, Ne.symm hji, reduceCtorEq]) (.inl rfl)
        (by simpa only [phase, ↓reduceIte] using hr) nofun hinv.contig hinv.top
    · rw [if_pos hh] at hs; cases hs
      exact inv_set hinv hlt (fun j hji => by simp only [hh, Option.some.injEq, Ne.symm hji, reduceCtorEq]) (.inl rfl)
        (by simpa only [phase, reduceCtorEq, ↓reduceIte] using hr) nofun hinv.contig hinv.top
    · cases hs
      exact inv_set hinv hlt (fun _ _ => .rfl) (.inl rfl)
        (by simpa only [phase] using hr) (fun a ha => ⟨hh, (Option.some.inj ha).symm⟩) hinv.contig hinv.top
    · cases hs
      obtain ⟨hhold, rfl⟩ := hinv.reg i _ a hth rfl
      -- the new block starts at the value loaded, which is still the generator's state
      exact inv_set hinv hlt (fun _ _ => .rfl) (.inr hhold)
        (by simpa only [phase, hhold, ↓reduceIte] using hr) nofun ⟨hinv.top.symm, hinv.contig⟩ rfl

/-- the invariant holds along every schedule -/
theorem run_inv (n0 : Nat) (sched : List Nat) (s : State) (hinv : Inv n0 s) : Inv n0 (run s sched) := by
  induction sched generalizing s with
  | nil => exact hinv
  | cons i rest ih =>
    unfold run
    cases hs : step s i with
    | none => exact ih s hinv
    | some s' => exact ih s' (step_inv n0 s s' i hinv hs)

theorem contig_le (n0 : Nat) : ∀ (log : List Entry), Contig n0 log →
    ∀ b ∈ log, b.start + b.len ≤ blocksEnd n0 log
  | e :: rest, ⟨he, hrest⟩, b, hb => by
    rcases List.mem_cons.1 hb with rfl | hb
    · exact Nat.le_refl _
    · exact Nat.le_trans (contig_le n0 rest hrest b hb) (he ▸ Nat.le_add_right _ _)

theorem contig_disjoint (n0 : Nat) : ∀ (log : List Entry), Contig n0 log →
    log.Pairwise (fun a b => ¬ overlap a b)
  | [], _ => .nil
  | e :: rest, ⟨he, hrest⟩ =>
    .cons (fun b hb ⟨t, h1, _, _, h4⟩ =>
      Nat.lt_irrefl t (Nat.lt_of_lt_of_le h4 (Nat.le_trans (contig_le n0 rest hrest b hb) (he ▸ h1))))
      (contig_disjoint n0 rest hrest)

theorem contig_total (n0 : Nat) : ∀ (log : List Entry), Contig n0 log → blocksEnd n0 log = n0 + total log
  | [], _ => rfl
  | e :: rest, ⟨he, hrest⟩ => by
    rw [blocksEnd, he, contig_total n0 rest hrest, total, Nat.add_assoc, Nat.add_comm (total rest)]

/-- no deadlock, in any configuration satisfying the invariant -/
theorem inv_progress {n0 : Nat} {s : State} (hinv : Inv n0 s)
    (hwork : ∃ (i : Nat) (th : Thread), s.threads[i]? = some th ∧ th.evs ≠ []) :
    ∃ i s', step s i = some s' := by
  -- the thread that can move: the holder if there is one (its discipline is not at an end),
  -- otherwise any thread with work left
  obtain ⟨i, e, rest, reg, hi, hfree⟩ : ∃ i e rest reg,
      s.threads[i]? = some ⟨e :: rest, reg⟩ ∧ (s.holder = none ∨ s.holder = some i) := by
    cases hh : s.holder with
    | some h =>
      obtain ⟨⟨_ | ⟨e, rest⟩, reg⟩, hget⟩ : ∃ th, s.threads[h]? = some th :=
        ⟨_, List.getElem?_eq_getElem (hinv.holder h hh)⟩
      · have hd := hinv.disc h _ hget
        cases reg <;> simp only [phase, hh, ↓reduceIte, disc, Bool.false_eq_true] at hd
      · exact ⟨h, e, rest, reg, hget, .inr rfl⟩
    | none =>
      obtain ⟨i, ⟨_ | ⟨e, rest⟩, reg⟩, hi, hne⟩ := hwork
      · exact absurd rfl hne
      · exact ⟨i, e, rest, reg, hi, .inl rfl⟩
  refine ⟨i, ?_⟩
  rcases head_phase (hinv.disc i _ hi) with
    ⟨rfl, rfl, hne, -⟩ | ⟨rfl, rfl, hh, -⟩ | ⟨rfl, rfl, -, -⟩ | ⟨k, a, rfl, rfl, -⟩
  · simp only [step, hi, hfree.resolve_right hne, ↓reduceIte, Option.some.injEq, exists_eq']
  · simp only [step, hi, hh, ↓reduceIte, Option.some.injEq, exists_eq']
  · simp only [step, hi, Option.some.injEq, exists_eq']
  · simp only [step, hi, Option.some.injEq, exists_eq']

theorem step_threads {s s' : State} {i : Nat} (hs : step s i = some s') :
    ∃ e rest reg reg', s.threads[i]? = some ⟨e :: rest, reg⟩ ∧ s'.threads = s.threads.set i ⟨rest, reg'⟩ := by
  unfold step at hs
  cases hth : s.threads[i]? with
  | none => simp only [hth, reduceCtorEq] at hs
  | some th =>
    obtain ⟨_ | ⟨e, rest⟩, reg⟩ := th
    · simp only [hth, reduceCtorEq] at hs
    · simp only [hth] at hs
      refine ⟨e, rest, reg, ?_⟩
      cases e <;> simp only at hs
      case load => cases hs; exact ⟨_, rfl, rfl⟩
      all_goals split at hs <;> cases hs; exact ⟨_, rfl, rfl⟩

end CC.Conc

namespace CC.Props.C19Conc
open CC.Conc CC.Sched CC.Generated

variable (n0 : Nat) (threads : List (List Ev)) (sched : List Nat)

/-- **freshness across threads** (C16 ∧ C19): for every schedule of any disciplined threads, no two
draws, by whatever threads, share a token -/
theorem draws_disjoint (h : ∀ t ∈ threads, disc .out t = true) :
    (run (init n0 threads) sched).log.Pairwise (fun a b => ¬ overlap a b) :=
  contig_disjoint n0 _ (run_inv n0 sched _ (init_inv n0 threads h)).contig

/-- every draw received the tokens that start exactly where the previous draw (of any thread)
ended — what a serial execution of the same draws hands out -/
theorem log_contig (h : ∀ t ∈ threads, disc .out t = true) :
    Contig n0 (run (init n0 threads) sched).log :=
  (run_inv n0 sched _ (init_inv n0 threads h)).contig

/-- **no lost update**: whatever the schedule, the generator ends advanced by exactly the sum of
all draws made so far -/
theorem counter_exact (h : ∀ t ∈ threads, disc .out t = true) :
    (run (init n0 threads) sched).rng = n0 + total (run (init n0 threads) sched).log := by
  have hinv := run_inv n0 sched _ (init_inv n0 threads h)
  rw [← hinv.top]; exact contig_total n0 _ hinv.contig

/-- **mutual exclusion on the generator's state**: a thread between its `load` and its `store`
holds the mutex, and its private copy is the current state (nobody advanced it meanwhile) -/
theorem loaded_is_holder (h : ∀ t ∈ threads, disc .out t = true) (i : Nat) (th : Thread) (a : Nat)
    (hi : (run (init n0 threads) sched).threads[i]? = some th) (ha : th.reg = some a) :
    (run (init n0 threads) sched).holder = some i ∧ a = (run (init n0 threads) sched).rng :=
  (run_inv n0 sched _ (init_inv n0 threads h)).reg i th a hi ha

theorem at_most_one_loaded (h : ∀ t ∈ threads, disc .out t = true) (i j : Nat) (ti tj : Thread)
    (hi : (run (init n0 threads) sched).threads[i]? = some ti) (hj : (run (init n0 threads) sched).threads[j]? = some tj)
    (hri : ti.reg.isSome) (hrj : tj.reg.isSome) : i = j := by
  obtain ⟨a, ha⟩ := Option.isSome_iff_exists.1 hri
  obtain ⟨b, hb⟩ := Option.isSome_iff_exists.1 hrj
  have h1 := (loaded_is_holder n0 threads sched h i ti a hi ha).1
  have h2 := (loaded_is_holder n0 threads sched h j tj b hj hb).1
  rw [h1] at h2; exact Option.some.inj h2

/-- **no deadlock**: in every reachable configuration, while some thread still has events, some
thread can move -/
theorem progress (h : ∀ t ∈ threads, disc .out t = true)
    (hwork : ∃ (i : Nat) (th : Thread), (run (init n0 threads) sched).threads[i]? = some th ∧ th.evs ≠ []) :
    ∃ i s', step (run (init n0 threads) sched) i = some s' :=
  inv_progress (run_inv n0 sched _ (init_inv n0 threads h)) hwork

def remaining (s : Conc.State) : Nat := (s.threads.map (fun t => t.evs.length)).sum

/-- **every call returns**: each step consumes one event of one thread (with `progress`: every
schedule ends with every call completed) -/
theorem step_consumes (s s' : Conc.State) (i : Nat) (hs : step s i = some s') : remaining s' + 1 = remaining s := by
  obtain ⟨e, rest, reg, reg', hth, hs'⟩ := step_threads hs
  have := sum_map_set (fun t => t.evs.length) ⟨rest, reg'⟩ hth
  simp only [remaining, hs', List.length_cons] at this ⊢
  omega

/-- sections of one API function according to the lock table: one per acquisition -/
def callEvents (evs : List LockEv) (draws : List (List Nat)) : List Ev :=
  threadOf (((evs.filter (· == .acq)).zipIdx).map (fun p => (draws[p.2]?).getD []))

/-- whatever the functions of the table draw, a thread calling any sequence of them is disciplined
(given `C19.table_wellNested`: a function's guard lifetimes are whole `acq … rel` sections) -/
theorem table_sections_disciplined (calls : List (List LockEv × List (List Nat))) :
    disc .out (calls.flatMap (fun c => callEvents c.1 c.2)) = true := by
  have : calls.flatMap (fun c => callEvents c.1 c.2) =
      threadOf (calls.flatMap (fun c => ((c.1.filter (· == .acq)).zipIdx).map (fun p => (c.2[p.2]?).getD []))) := by
    simp only [callEvents, threadOf, List.flatMap_assoc]
  rw [this]; exact threadOf_disc _

/-- the generator is one object: the only places of the library that construct a generator are
constructors, and nothing duplicates one (`clone`, `thread_local!`). An operation that builds or
copies a generator of its own is outside the discipline (its draws are not read‑modify‑writes of the
shared state) — `snapshot_breaks` is what then happens. -/
theorem generator_sites_are_constructors : locksAvailable = true →
    rngSites.all (fun p => p.2.2) = true := by decide

/-- **the scheduling model's one mutex is all there is**: the only shared-state / synchronisation
object the library declares (fields, statics, thread-locals, atomics, cells; tests excluded) is the
generator behind its mutex. With a second lock, a global or a lazily initialised static the theorems
of this file would no longer describe the code. -/
theorem generator_mutex_is_the_only_shared_state : locksAvailable = true →
    syncObjects.map (·.2) = ["Mutex<CsRng>"] := by decide

/-- a thread that reads the generator in one critical section and writes it back in a later one
(every lock event perfectly nested, every access under the guard) -/
def snapshotThread : List Ev := [.acq, .load, .rel, .acq, .store 1, .rel]

/-- … hands the same token to two threads under this schedule -/
theorem snapshot_breaks :
    let s := run (init 100 [snapshotThread, snapshotThread]) [0, 0, 0, 1, 1, 1, 0, 0, 0, 1, 1, 1]
    s.log = [⟨1, 100, 1⟩, ⟨0, 100, 1⟩] ∧ s.rng = 101 := by decide

/-- so does touching the generator without the guard -/
theorem unlocked_breaks :
    (run (init 7 [[.load, .store 2], [.load, .store 2]]) [0, 1, 0, 1]).log = [⟨1, 7, 2⟩, ⟨0, 7, 2⟩] := by decide

/-- the snapshot thread is not disciplined although its lock events are perfectly nested -/
example : disc .out snapshotThread = false := by decide

/-- non-vacuity: two threads, one running `encrypt` (two sections) then `decaps`, the other
`header::generate`, are disciplined, and a concrete interleaving hands out consecutive blocks -/
example : ∀ t ∈ [threadOf [[1, 3], [1], [2]], threadOf [[1, 2], [1]]], disc .out t = true := by decide

example : (run (init 0 [threadOf [[1, 3], [1]], threadOf [[2]]]) [0, 0, 1, 0, 0, 0, 0, 1, 1, 1, 1, 0, 0, 0, 0]).log
    = [⟨0, 6, 1⟩, ⟨1, 4, 2⟩, ⟨0, 1, 3⟩, ⟨0, 0, 1⟩] := by decide

end CC.Props.C19Conc
