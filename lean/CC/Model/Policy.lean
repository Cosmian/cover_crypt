/-! # Access policies: AST, smart constructors, DNF, evaluation, parser

Mirrors `src/abe_policy/access_policy.rs` and `QualifiedAttribute::try_from(&str)` of
`src/abe_policy/attribute.rs`. The parser works on `List Char` (the Rust code slices at char
boundaries after the D11 repair), with the queue `q` of the Rust loop made explicit. -/

namespace CC

structure QA where
  dim : String
  name : String
deriving DecidableEq, Repr, Inhabited

inductive AP where
  | broadcast
  | term (a : QA)
  | conj (l r : AP)
  | disj (l r : AP)
deriving DecidableEq, Repr, Inhabited

namespace AP

/-- `impl BitAnd for AccessPolicy` -/
def and (l r : AP) : AP :=
  if l = .broadcast then r else if r = .broadcast then l else .conj l r

/-- `impl BitOr for AccessPolicy` -/
def or (l r : AP) : AP :=
  if l = .broadcast then l else if r = .broadcast then r else .disj l r

def eval (v : QA → Bool) : AP → Bool
  | .broadcast => true
  | .term a => v a
  | .conj l r => l.eval v && r.eval v
  | .disj l r => l.eval v || r.eval v

/-- `AccessPolicy::to_dnf` -/
def toDnf : AP → List (List QA)
  | .term a => [[a]]
  | .conj l r => l.toDnf.flatMap (fun x => r.toDnf.map (fun y => x ++ y))
  | .disj l r => l.toDnf ++ r.toDnf
  | .broadcast => [[]]

def atoms : AP → List QA
  | .broadcast => []
  | .term a => [a]
  | .conj l r => l.atoms ++ r.atoms
  | .disj l r => l.atoms ++ r.atoms

end AP

def evalDnf (v : QA → Bool) (d : List (List QA)) : Bool := d.any (fun c => c.all v)

/-! ## The parser -/

inductive PErr where
  | invalidBool | invalidAttr
deriving DecidableEq, Repr

/-- `char::is_whitespace` (Unicode `White_Space`). -/
def isWs (c : Char) : Bool :=
  let n := c.toNat
  n = 0x20 || (0x09 ≤ n && n ≤ 0x0D) || n = 0x85 || n = 0xA0 || n = 0x1680 ||
  (0x2000 ≤ n && n ≤ 0x200A) || n = 0x2028 || n = 0x2029 || n = 0x202F || n = 0x205F || n = 0x3000

def trimStart (s : List Char) : List Char := s.dropWhile isWs
def trimEnd (s : List Char) : List Char := (s.reverse.dropWhile isWs).reverse
/-- `str::trim` -/
def trim (s : List Char) : List Char := trimEnd (trimStart s)

theorem dropWhile_length_le {α} (p : α → Bool) (l : List α) : (l.dropWhile p).length ≤ l.length :=
  (List.dropWhile_sublist p).length_le

theorem trim_length_le (s : List Char) : (trim s).length ≤ s.length := by
  rw [trim, trimEnd, List.length_reverse]
  exact Nat.le_trans (dropWhile_length_le _ _) (by rw [List.length_reverse]; exact dropWhile_length_le _ _)

/-- `find_matching_closing_parenthesis`: index (in chars) of the parenthesis closing the one
already consumed. -/
def findClose : List Char → Nat → Nat → Option Nat
  | [], _, _ => none
  | c :: cs, depth, idx =>
    if c = '(' then findClose cs (depth + 1) (idx + 1)
    else if c = ')' then
      if depth = 0 then some idx else findClose cs (depth - 1) (idx + 1)
    else findClose cs depth (idx + 1)

theorem findClose_lt : ∀ (s : List Char) (d i k : Nat), findClose s d i = some k → k < i + s.length := by
  intro s
  induction s with
  | nil => intro _ _ _ h; cases h
  | cons c cs ih =>
    intro d i k h
    have tail : ∀ d', findClose cs d' (i + 1) = some k → k < i + (c :: cs).length := fun d' h' =>
      Nat.lt_of_lt_of_eq (ih d' (i + 1) k h') (Nat.add_right_comm i 1 _)
    unfold findClose at h
    split at h
    · exact tail _ h
    · split at h
      · split at h
        · cases h; exact Nat.lt_add_of_pos_right (Nat.succ_pos _)
        · exact tail _ h
      · exact tail _ h

def isMeta (c : Char) : Bool := c = '(' || c = ')' || c = '|' || c = '&'

/-- `str::split_once("::")` -/
def splitOnce : List Char → Option (List Char × List Char)
  | [] => none
  | ':' :: ':' :: rest => some ([], rest)
  | c :: rest => (splitOnce rest).map (fun (a, b) => (c :: a, b))

/-- `str::contains("::")` -/
def containsSep : List Char → Bool
  | [] => false
  | ':' :: ':' :: _ => true
  | _ :: rest => containsSep rest

/-- `QualifiedAttribute::try_from(&str)` -/
def qaOfStr (s : List Char) : Except PErr QA :=
  match splitOnce s with
  | none => .error .invalidAttr
  | some (d, n) =>
    if containsSep n then .error .invalidAttr
    else if d.isEmpty || n.isEmpty then .error .invalidAttr
    else .ok ⟨String.ofList (trim d), String.ofList (trim n)⟩

/-- `AccessPolicy::conjugate` -/
def conjugate (first : AP) (rest : List AP) : AP := rest.foldl AP.and first

/-- `AccessPolicy::parse` with its queue made explicit. -/
def parseLoop (q : List AP) (e0 : List Char) : Except PErr AP :=
  let e := trim e0
  match he : e with
  | [] =>
    match q with
    | first :: rest => .ok (conjugate first rest)
    | [] => .error .invalidBool
  | c :: tl =>
    if e = ['*'] then .ok (conjugate .broadcast q)
    else if c = '(' then
      match findClose tl 0 0 with
      | none => .error .invalidBool
      | some off =>
        match parseLoop [] (tl.take off) with
        | .error _ => .error .invalidBool
        | .ok sub => parseLoop (q ++ [sub]) (tl.drop (off + 1))
    else if c = '|' then
      match tl with
      | '|' :: rest =>
        match q with
        | [] => .error .invalidBool
        | base :: qs =>
          match parseLoop [] rest with
          | .error err => .error err
          | .ok rhs => .ok ((conjugate base qs).or rhs)
      | _ => .error .invalidBool
    else if c = '&' then
      match tl with
      | '&' :: rest => if q.isEmpty then .error .invalidBool else parseLoop q rest
      | _ => .error .invalidBool
    else if c = ')' then .error .invalidBool
    else
      let attr := e.takeWhile (fun c => !isMeta c)
      match qaOfStr attr with
      | .error err => .error err
      | .ok a => parseLoop (q ++ [.term a]) (e.drop attr.length)
termination_by e0.length
decreasing_by
  all_goals simp_wf
  all_goals have hle := trim_length_le e0
  · have h2 : trim e0 = c :: tl := he
    simp [h2] at hle; omega
  · have h2 : trim e0 = c :: tl := he
    simp [h2] at hle; omega
  · have h2 : trim e0 = c :: '|' :: rest := he
    simp [h2] at hle; omega
  · have h2 : trim e0 = c :: '&' :: rest := he
    simp [h2] at hle; omega
  · have h2 : trim e0 = c :: tl := he
    have hnm : isMeta c = false := by simp [isMeta, *]
    rw [h2] at hle ⊢
    simp only [List.takeWhile, hnm, Bool.not_false, List.length_cons] at hle ⊢
    omega

def parse (s : String) : Except PErr AP := parseLoop [] s.toList

end CC
