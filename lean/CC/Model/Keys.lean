import CC.Model.Structure
/-! # Keys and encapsulations, symbolically

Cryptographic leaves are tokens: a right secret key is `{tok, hyb}` (`tok` names the ElGamal
scalar — and the ML-KEM key pair drawn with it when `hyb`); its public key is the public half of
the same token. An encapsulation records the tokens of the public keys it was made for; "the tag
matches and the traps re-derive" becomes "the secret's token is among the targets, the flavour is
usable, and the key belongs to the same authority" (justified once by `CC.Props.C07`/`C01Alg`, and
checked against the real code by the correspondence runs). -/

namespace CC

/-- `RightSecretKey` (and, read as its public half, `RightPublicKey`) -/
structure Sk where
  tok : Nat
  hyb : Bool
deriving DecidableEq, Repr, Inhabited

/-- `RightSecretKey::drop_hybridization` -/
def Sk.dropHyb (s : Sk) : Sk := { s with hyb := false }

/-- `UserId`: the markers -/
abbrev UserId := List Nat

/-- what KMAC was computed over (`sign`): key token, markers, chains -/
structure Sig where
  key : Nat
  id : UserId
  secrets : List (Right × List Sk)
deriving DecidableEq, Repr, Inhabited

/-- `RevisionMap<Right, (bool, RightSecretKey)>` -/
abbrev RevMap := List (Right × List (Bool × Sk))
/-- `RevisionVec<Right, RightSecretKey>` -/
abbrev RevVec := List (Right × List Sk)

structure Msk where
  /-- identity of the authority: stands for `tsk.s` and the tracers -/
  auth : Nat
  /-- number of tracers (tracing level + 1) -/
  ntracers : Nat
  users : List UserId
  secrets : RevMap
  signKey : Option Nat
  structure_ : Struct
deriving DecidableEq, Repr, Inhabited

structure Mpk where
  auth : Nat
  ntracers : Nat
  keys : List (Right × Sk)
  structure_ : Struct
deriving DecidableEq, Repr, Inhabited

structure Usk where
  id : UserId
  /-- `ps`: the public tracers it embeds: authority and number -/
  auth : Nat
  nps : Nat
  secrets : RevVec
  sig : Option Sig
deriving DecidableEq, Repr, Inhabited

structure XEnc where
  /-- authority whose tracers made the traps `c`, and their number -/
  auth : Nat
  ntraps : Nat
  /-- `Encapsulations::HEncs` vs `CEncs` -/
  hybrid : Bool
  /-- public keys the seed was masked for, in (shuffled) order -/
  targets : List Sk
  /-- name of the seed `S`; the returned shared secret and the tag are functions of it -/
  seed : Nat
deriving DecidableEq, Repr, Inhabited

/-! ## RevisionMap / RevisionVec -/

namespace RevMap

def get (m : RevMap) (r : Right) : Option (List (Bool × Sk)) := m.lookup r
def containsKey (m : RevMap) (r : Right) : Bool := (m.lookup r).isSome
/-- `RevisionMap::get_latest` -/
def getLatest (m : RevMap) (r : Right) : Option (Bool × Sk) := (m.lookup r).bind List.head?

/-- `RevisionMap::insert`: push at the front of the chain, or start a chain -/
def insert (m : RevMap) (r : Right) (v : Bool × Sk) : RevMap :=
  if (m.lookup r).isSome then m.map (fun p => if p.1 == r then (p.1, v :: p.2) else p)
  else m ++ [(r, [v])]

/-- replace the head of a chain -/
def setHead (v : Bool × Sk) : List (Bool × Sk) → List (Bool × Sk)
  | [] => []
  | _ :: tl => v :: tl

/-- `LinkedList::split_off(n)` keeping the front, when `n <= len` -/
def keepN (n : Nat) (c : List (Bool × Sk)) : List (Bool × Sk) := if n ≤ c.length then c.take n else c

/-- `get_latest_mut` followed by an assignment -/
def setLatest (m : RevMap) (r : Right) (v : Bool × Sk) : RevMap :=
  m.map (fun p => if p.1 == r then (p.1, setHead v p.2) else p)

/-- `RevisionMap::keep(key, n)` -/
def keep (m : RevMap) (r : Right) (n : Nat) : RevMap :=
  m.map (fun p => if p.1 == r then (p.1, keepN n p.2) else p)

/-- `RevisionMap::retain` -/
def retain (m : RevMap) (f : Right → Bool) : RevMap := m.filter (fun p => f p.1)

end RevMap

/-- one step of the (repaired) `RevisionIterator::next`: the next element of every chain that is
not exhausted, and the remaining chains. -/
def revHeads (chains : RevVec) : List (Right × Sk) :=
  chains.filterMap (fun p => p.2.head?.map (fun s => (p.1, s)))
def revTails (chains : RevVec) : RevVec := chains.map (fun p => (p.1, p.2.tail))

def revTotal (chains : RevVec) : Nat := (chains.map (fun p => p.2.length)).sum

theorem revTotal_tails_lt (chains : RevVec) (h : revHeads chains ≠ []) :
    revTotal (revTails chains) < revTotal chains := by
  -- taking tails never lengthens; it shortens as soon as one chain is not empty
  have hle : ∀ cs : RevVec, revTotal (revTails cs) ≤ revTotal cs := by
    intro cs
    induction cs with
    | nil => exact Nat.le_refl _
    | cons q qs ih =>
      show q.2.tail.length + revTotal (revTails qs) ≤ q.2.length + revTotal qs
      exact Nat.add_le_add (List.length_tail ▸ Nat.sub_le _ _) ih
  induction chains with
  | nil => exact absurd rfl h
  | cons p ps ih =>
    obtain ⟨k, c⟩ := p
    cases c with
    | nil =>
      show 0 + revTotal (revTails ps) < 0 + revTotal ps
      exact Nat.add_lt_add_left (ih h) 0
    | cons s c =>
      show c.length + revTotal (revTails ps) < c.length + 1 + revTotal ps
      exact Nat.add_lt_add_of_lt_of_le (Nat.lt_succ_self _) (hle ps)

/-- `RevisionVec::revisions`, as the list of all revisions the iterator yields -/
def revisions (chains : RevVec) : List (List (Right × Sk)) :=
  if h : revHeads chains = [] then [] else revHeads chains :: revisions (revTails chains)
termination_by revTotal chains
decreasing_by exact revTotal_tails_lt chains h

end CC
